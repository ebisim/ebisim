import EbisimProofs.Props.C03
import EbisimProofs.Props.C15

/-! # C04 — the temperature equations balance thermal energy exactly

Same model as C03 (`Adv.dnAt`, `Adv.dkTAt` over the stage arrays of `_adv_rhs`).
`T` below is the clamped temperature the kernel uses, `n_r` the *raw* density that appears in the
denominators of the temperature equations, the rates are those of the (smoothed) densities. -/
namespace C04
open Adv Num Finset Gen

/-- the temperature derivative of a non-neutral state is the documented sum of terms -/
theorem dkT_is_documented_sum (lb : List ℕ) (T : TIn ℝ) (P : PRates ℝ) (k : ℕ) (hk : k ∉ lb) :
    dkTAt lb T P k =
      (upMix T P.ei k + upHeat T P.ei k)                       -- ionisation: mixing + ionisation heating
      + (downMix T P.rr k - downHeat T P.rr k)                 -- radiative recombination: mixing − cooling
      + (downMix T P.dr k - downHeat T P.dr k)                 -- dielectronic recombination
      + (downMix T P.cx k - downHeat T P.cx k)                 -- charge exchange
      + T.sh k + T.ct k                                         -- Spitzer heating, ion–ion heat exchange
      - axCool T k - raCool T k := by                           -- evaporative cooling by escape
  simp only [dkTAt, hk, if_false, lit_real, Nat.cast_zero]; ring

/-- rate restricted to the vector (`R k` for `k < nq`, else 0): what `dn[:-1] += R[1:]` can see; `Adv.block_sum_down` (upstream of this file)
spells the same function out -/
def cut (nq : ℕ) (R : ℕ → ℝ) (k : ℕ) : ℝ := if k < nq then R k else 0

theorem cut_of_lt {nq : ℕ} (R : ℕ → ℝ) {k : ℕ} (h : k < nq) : cut nq R k = R k := if_pos h

theorem cut_eq_zero {nq : ℕ} {R : ℕ → ℝ} {k : ℕ} (h : k < nq → R k = 0) : cut nq R k = 0 := ite_eq_right_iff.mpr h

theorem shiftDown_eq_cut (nq : ℕ) (R : ℕ → ℝ) (k : ℕ) : shiftDown nq R k = cut nq R (k + 1) := by
  simp [shiftDown, cut]

theorem downMix_eq (T : TIn ℝ) (R : ℕ → ℝ) (k : ℕ) :
    downMix T R k = cut T.nq R (k + 1) / T.n_r k * (T.kT (k + 1) - T.kT k) := by
  unfold downMix cut
  split_ifs <;> simp

theorem downHeat_eq (T : TIn ℝ) (R : ℕ → ℝ) (k : ℕ) :
    downHeat T R k = cut T.nq R (k + 1) / T.n_r k * T.ih (k + 1) := by
  unfold downHeat cut
  split_ifs <;> simp

/-- `rec_energy_block` for a rate of which `dn[:-1] += R[1:]` sees only the part inside the vector -/
theorem rec_energy_block_cut (nq : ℕ) (R T h : ℕ → ℝ) (L U : ℕ) (hLU : L + 2 ≤ U) (hU : U ≤ nq) :
    ∑ k ∈ Ico (L + 1) U, ((T (k + 1) - h (k + 1)) * cut nq R (k + 1) - T k * R k)
      = T U * cut nq R U - T (L + 1) * R (L + 1) - ∑ k ∈ Ico (L + 1) U, h (k + 1) * cut nq R (k + 1) := by
  rw [← cut_of_lt R (show L + 1 < nq by omega), ← rec_energy_block (cut nq R) T h L U (by omega)]
  refine sum_congr rfl fun k hk => ?_
  rw [cut_of_lt R (show k < nq by have := (mem_Ico.mp hk).2; omega)]

/-- thermal energy of one state: `T k · dn k + n_r k · dkT k`, reaction by reaction -/
theorem state_energy (nq : ℕ) (lb : List ℕ) (T : TIn ℝ) (P : PRates ℝ) (k : ℕ) (hT : T.nq = nq)
    (hk : k ∉ lb) (hk0 : k ≠ 0) (hn : T.n_r k ≠ 0) :
    T.kT k * dnAt nq lb P k + T.n_r k * dkTAt lb T P k =
      ((T.kT (k - 1) + T.ih (k - 1)) * P.ei (k - 1) - T.kT k * P.ei k)
      + ((T.kT (k + 1) - T.ih (k + 1)) * cut nq P.rr (k + 1) - T.kT k * P.rr k)
      + ((T.kT (k + 1) - T.ih (k + 1)) * cut nq P.dr (k + 1) - T.kT k * P.dr k)
      + ((T.kT (k + 1) - T.ih (k + 1)) * cut nq P.cx (k + 1) - T.kT k * P.cx k)
      + T.n_r k * (T.sh k + T.ct k) - T.kT k * (P.ax k + P.ra k) - T.n_r k * (axCool T k + raCool T k) := by
  rw [C03.dn_interior nq lb P k hk, dkT_is_documented_sum lb T P k hk]
  simp only [shiftUp, upMix, upHeat, if_neg hk0, shiftDown_eq_cut, downMix_eq, downHeat_eq, hT]
  -- one ionisation step from below, three recombination-type steps from above (whatever of them `cut` lets through)
  linear_combination energy_step (T.kT k) (T.kT (k - 1)) (T.ih (k - 1)) (T.n_r k) (P.ei k) (P.ei (k - 1)) hn
    + energy_step (T.kT k) (T.kT (k + 1)) (-T.ih (k + 1)) (T.n_r k) (P.rr k) (cut nq P.rr (k + 1)) hn
    + energy_step (T.kT k) (T.kT (k + 1)) (-T.ih (k + 1)) (T.n_r k) (P.dr k) (cut nq P.dr (k + 1)) hn
    + energy_step (T.kT k) (T.kT (k + 1)) (-T.ih (k + 1)) (T.n_r k) (P.cx k) (cut nq P.cx (k + 1)) hn

/-- **thermal-energy balance of one species.** For the block `[L, U)` of a target (`L` its neutral
row), with non-zero raw densities and the boundary rates zero (bare nucleus not ionised, following
neutral not recombining): the rate of change of `Σ n kT` over its ions equals

* the energy carried in by newly ionised neutrals `R_ei L · T L`, minus the energy carried out by ions
  recombining to neutrals `R_rec (L+1) · T (L+1)`,
* plus ionisation heating `Σ R_ei k · ih k` minus recombination cooling `Σ R_rec k · ih k`,
* plus Spitzer heating and ion–ion exchange `Σ n_r (SH + CT)`,
* minus the energy leaving with escaping ions `Σ (R_ax + R_ra) T` and the evaporative cooling term;

charge-changing reactions by themselves neither create nor destroy thermal energy (all `T`-weighted
reaction terms cancel pairwise). -/
theorem thermal_energy_balance (nq : ℕ) (lb : List ℕ) (T : TIn ℝ) (P : PRates ℝ) (L U : ℕ) (hT : T.nq = nq)
    (h : L + 2 ≤ U) (hU : U ≤ nq) (hint : ∀ k ∈ Ico (L + 1) U, k ∉ lb) (hn : ∀ k ∈ Ico (L + 1) U, T.n_r k ≠ 0)
    (hEi : P.ei (U - 1) = 0) (hRr : U < nq → P.rr U = 0) (hDr : U < nq → P.dr U = 0) (hCx : U < nq → P.cx U = 0) :
    ∑ k ∈ Ico (L + 1) U, (T.kT k * dnAt nq lb P k + T.n_r k * dkTAt lb T P k) =
      P.ei L * T.kT L - (P.rr (L + 1) + P.dr (L + 1) + P.cx (L + 1)) * T.kT (L + 1)
      + ∑ k ∈ Ico (L + 1) U, T.ih (k - 1) * P.ei (k - 1)
      - ∑ k ∈ Ico (L + 1) U, T.ih (k + 1) * (cut nq P.rr (k + 1) + cut nq P.dr (k + 1) + cut nq P.cx (k + 1))
      + ∑ k ∈ Ico (L + 1) U, T.n_r k * (T.sh k + T.ct k)
      - ∑ k ∈ Ico (L + 1) U, T.kT k * (P.ax k + P.ra k)
      - ∑ k ∈ Ico (L + 1) U, T.n_r k * (axCool T k + raCool T k) := by
  rw [sum_congr rfl fun k hk => state_energy nq lb T P k hT (hint k hk) (by simp only [mem_Ico] at hk; omega) (hn k hk)]
  rw [sum_sub_distrib, sum_sub_distrib, sum_add_distrib, sum_add_distrib, sum_add_distrib, sum_add_distrib]
  rw [ei_energy_block P.ei T.kT T.ih L U (by omega), rec_energy_block_cut nq P.rr T.kT T.ih L U h hU,
    rec_energy_block_cut nq P.dr T.kT T.ih L U h hU, rec_energy_block_cut nq P.cx T.kT T.ih L U h hU,
    hEi, cut_eq_zero hRr, cut_eq_zero hDr, cut_eq_zero hCx]
  simp only [mul_add, sum_add_distrib]
  ring

/-- **escape never heats** for non-negative trap depth parameters and temperatures (the evaporative
term enters `dkT` with a minus sign) -/
theorem escape_cools (T : TIn ℝ) (k : ℕ) (he : 0 ≤ T.e_ax k ∧ 0 ≤ T.e_ra k) (hw : 0 ≤ T.w_ax k ∧ 0 ≤ T.w_ra k) (hT : 0 ≤ T.kT k) :
    0 ≤ axCool T k ∧ 0 ≤ raCool T k := by
  unfold axCool raCool
  simp only [lit_real, Nat.cast_ofNat, Nat.cast_zero]
  obtain ⟨he1, he2⟩ := he
  obtain ⟨hw1, hw2⟩ := hw
  exact ⟨ite_nonneg (by positivity) le_rfl, ite_nonneg (by positivity) le_rfl⟩

/-- the escape frequency the kernel uses is non-negative (collision rates are) and the axial
trapping parameter is non-negative for a non-negative trap depth -/
theorem escape_inputs_nonneg (ν w kT q V : ℝ) (hν : 0 ≤ ν) (hq : 0 ≤ q) (hV : 0 ≤ V) (hkT : 0 < kT) :
    0 ≤ collisional_escape_rate ν w ∧ 0 ≤ trapping_strength_axial kT q V := by
  refine ⟨C15.escape_nonneg ν w hν, ?_⟩
  rw [C15.trapping_strength_axial_eq_spec]; unfold C15.Spec.trapAx; positivity

/-- **heat exchange flows from the hotter to the colder population**, each pairwise term of the
thermalisation sum carries the sign of `T_j − T_i` (overlap factor `f_ij = min((r_j/r_i)², 1) ≥ 0`) -/
theorem heat_flows_hot_to_cold (Ti Tj Ai Aj ν fij : ℝ) (hTi : 0 < Ti) (hTj : 0 < Tj) (hAi : 0 < Ai) (hAj : 0 < Aj)
    (hν : 0 < ν) (hf : 0 < fij) :
    (0 < fij * collisional_thermalisation Ti Tj Ai Aj ν ↔ Ti < Tj) ∧
    (fij * collisional_thermalisation Ti Tj Ai Aj ν < 0 ↔ Tj < Ti) := by
  obtain ⟨h1, h2⟩ := C15.heat_hot_to_cold Ti Tj Ai Aj ν hTi hTj hAi hAj hν
  constructor
  · rw [mul_pos_iff_of_pos_left hf]; exact h1
  · exact ⟨fun h => h2.mp (neg_of_mul_neg_right h hf.le), fun h => mul_neg_of_pos_of_neg hf (h2.mpr h)⟩

/-- Spitzer heating (times the non-negative overlap factor) never cools -/
theorem spitzer_never_cools (Ni Ne Ti Ee Ai qi fei : ℝ) (hf : 0 ≤ fei) : 0 ≤ spitzer_heating Ni Ne Ti Ee Ai qi * fei :=
  mul_nonneg (C15.spitzer_nonneg Ni Ne Ti Ee Ai qi) hf

-- non-vacuity: the first block of the two-species layout of C03 (blocks [0,3) and [3,5))
example : (∀ k ∈ Ico (0 + 1) 3, k ∉ ([0, 3] : List ℕ)) ∧ 0 + 2 ≤ 3 ∧ 3 ≤ 5 := by decide

end C04
