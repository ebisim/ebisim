import EbisimProofs.Lemmas.Consts
import EbisimModel.Model.Xs
import Mathlib.Analysis.SpecialFunctions.Gaussian.GaussianIntegral
import Mathlib.Analysis.Real.Pi.Bounds
import Mathlib.Analysis.Complex.ExponentialBounds

/-! # C09 — DR cross sections are strength-preserving Gaussians of the requested width

`Gen.normpdf` is generated from `xs._normpdf`, `Xs.drTerm/drSlot/drxsVec` is the hand model of `drxs_vec`
(bit-identical to the compiled kernel), over the resonance tables regenerated from the csv files on every run.
Over ℝ the generated `PI` is the decimal literal 3.141592653589793, not `Real.pi`: the strength integral is
the tabulated strength times `κ = √(π / PI)`, `|κ − 1| < 10⁻¹⁵`. -/
namespace C09
open Xs Num Gen Real MeasureTheory

/-- documented normal pdf with the package's constant `PI` -/
noncomputable def Spec.normpdf (x mu sigma : ℝ) : ℝ :=
  Real.exp (-(x - mu) ^ 2 / (2 * sigma ^ 2)) / (2 * Const.PI * sigma ^ 2) ^ (1/2 : ℝ)

theorem normpdf_eq_spec (x mu sigma : ℝ) : normpdf x mu sigma = Spec.normpdf x mu sigma := by
  unfold normpdf Spec.normpdf
  simp only [lit_real, powN_real, Transc.exp_real, Transc.rpow_real, Nat.cast_ofNat]
  norm_num

/-- `κ = √(π/PI)`: the only deviation of the integral from 1 -/
noncomputable def kappa : ℝ := Real.sqrt (Real.pi / Const.PI)

theorem abs_sqrt_sub_lt {x a ε : ℝ} (ha : 0 ≤ a - ε) (hε : 0 < ε) (h1 : (a - ε) ^ 2 < x) (h2 : x < (a + ε) ^ 2) :
    |Real.sqrt x - a| < ε := by
  have lo := (Real.lt_sqrt ha).mpr h1
  have hi := (Real.sqrt_lt' (by linarith)).mpr h2
  rw [abs_lt]
  constructor <;> linarith

theorem kappa_near_one : |kappa - 1| < 1e-15 := by
  have h1 := Real.pi_gt_d20
  have h2 := Real.pi_lt_d20
  have hP : (Const.PI : ℝ) = 3.141592653589793 := rfl
  refine abs_sqrt_sub_lt (by norm_num) (by norm_num) ?_ ?_
  · rw [hP, lt_div_iff₀ (by norm_num)]
    norm_num at h1 ⊢
    linarith
  · rw [hP, div_lt_iff₀ (by norm_num)]
    norm_num at h2 ⊢
    linarith

theorem normpdf_integrable (mu sigma : ℝ) (hs : 0 < sigma) : Integrable (fun x => Spec.normpdf x mu sigma) := by
  unfold Spec.normpdf
  apply Integrable.div_const
  have hb : 0 < 1 / (2 * sigma ^ 2) := by positivity
  have h := (integrable_exp_neg_mul_sq hb).comp_sub_right mu
  refine h.congr (Filter.Eventually.of_forall fun x => ?_)
  simp only
  congr 1; ring

/-- **the Gaussian integrates to `κ ≈ 1` for every width** (`1` up to the 16-digit value of π) -/
theorem normpdf_integral (mu sigma : ℝ) (hs : 0 < sigma) : ∫ x : ℝ, Spec.normpdf x mu sigma = kappa := by
  unfold Spec.normpdf
  rw [integral_div]
  have h1 : ∫ x : ℝ, Real.exp (-(x - mu) ^ 2 / (2 * sigma ^ 2)) = ∫ x : ℝ, Real.exp (-(1 / (2 * sigma ^ 2)) * x ^ 2) := by
    rw [← integral_sub_right_eq_self (fun x => Real.exp (-(1 / (2 * sigma ^ 2)) * x ^ 2)) mu]
    congr 1; funext x; congr 1; ring
  rw [h1, integral_gaussian]
  have hP := Const.PI_pos
  have hpos : 0 < 2 * Const.PI * sigma ^ 2 := by positivity
  rw [← Real.sqrt_eq_rpow, ← Real.sqrt_div (by positivity)]
  unfold kappa
  congr 1
  field_simp

theorem normpdf_peak_pos (mu sigma : ℝ) (hs : 0 < sigma) : 0 < Spec.normpdf mu mu sigma := by
  unfold Spec.normpdf
  have hP := Const.PI_pos
  have : 0 < (2 * Const.PI * sigma ^ 2) ^ (1/2 : ℝ) := Real.rpow_pos_of_pos (by positivity) _
  positivity

theorem normpdf_nonneg (x mu sigma : ℝ) : 0 ≤ Spec.normpdf x mu sigma := by
  unfold Spec.normpdf
  have hP := Const.PI_pos
  have : 0 ≤ (2 * Const.PI * sigma ^ 2) ^ (1/2 : ℝ) := Real.rpow_nonneg (by positivity) _
  positivity

/-- maximum and half width are facts about the exponential factor -/
theorem normpdf_eq_mul_peak (x mu sigma : ℝ) :
    Spec.normpdf x mu sigma = Real.exp (-(x - mu) ^ 2 / (2 * sigma ^ 2)) * Spec.normpdf mu mu sigma := by
  simp [Spec.normpdf, div_eq_mul_inv]

/-- maximum at the resonance energy, and only there -/
theorem normpdf_max (x mu sigma : ℝ) (hs : 0 < sigma) :
    Spec.normpdf x mu sigma ≤ Spec.normpdf mu mu sigma ∧ (Spec.normpdf x mu sigma = Spec.normpdf mu mu sigma ↔ x = mu) := by
  have hp := normpdf_peak_pos mu sigma hs
  have h2 : 0 < 2 * sigma ^ 2 := by positivity
  rw [normpdf_eq_mul_peak x]
  constructor
  · exact mul_le_of_le_one_left hp.le (Real.exp_le_one_iff.mpr
      (div_nonpos_of_nonpos_of_nonneg (neg_nonpos.mpr (sq_nonneg _)) h2.le))
  · -- `exp a = 1 ↔ a = 0`, and the exponent vanishes only at `x = μ`
    rw [mul_eq_right₀ hp.ne', Real.exp_eq_one_iff, div_eq_zero_iff, or_iff_left h2.ne', neg_eq_zero,
      sq_eq_zero_iff, sub_eq_zero]

/-- half maximum exactly at `μ ± σ √(2 ln 2)` -/
theorem normpdf_half_width (mu sigma : ℝ) (hs : 0 < sigma) (s : ℝ) (hsgn : s = 1 ∨ s = -1) :
    Spec.normpdf (mu + s * sigma * Real.sqrt (2 * Real.log 2)) mu sigma = Spec.normpdf mu mu sigma / 2 := by
  have hl : 0 ≤ 2 * Real.log 2 := by positivity
  have hs2 : s ^ 2 = 1 := by rcases hsgn with h | h <;> simp [h]
  have harg : -(mu + s * sigma * Real.sqrt (2 * Real.log 2) - mu) ^ 2 / (2 * sigma ^ 2) = -Real.log 2 := by
    rw [add_sub_cancel_left, mul_pow, mul_pow, hs2, Real.sq_sqrt hl]
    field_simp
  rw [normpdf_eq_mul_peak, harg, Real.exp_neg, Real.exp_log two_pos]
  ring

/-- the constant 2.35482 of `drxs_vec` equals 2√(2 ln 2) to better than 10⁻⁷ relative: an isolated
resonance has full width at half maximum `w (1 + ε)`, `|ε| < 10⁻⁷` -/
theorem fwhm_constant : |2 * Real.sqrt (2 * Real.log 2) / 2.35482 - 1| < 1e-7 := by
  obtain ⟨h1, h2⟩ := abs_sub_le_iff.mp Real.log_two_near_10
  -- `2.35482 / 2 = 1.17741`
  have key : |Real.sqrt (2 * Real.log 2) - 1.17741| < 1e-7 := by
    refine abs_sqrt_sub_lt (by norm_num) (by norm_num) ?_ ?_
    · norm_num at h2 ⊢
      linarith
    · norm_num at h1 ⊢
      linarith
  have e : 2 * Real.sqrt (2 * Real.log 2) / 2.35482 - 1 = (Real.sqrt (2 * Real.log 2) - 1.17741) / 1.17741 := by
    ring
  rw [e, abs_div, abs_of_pos (by norm_num : (0 : ℝ) < 1.17741), div_lt_iff₀ (by norm_num)]
  linarith

/-- full width at half maximum of the Gaussian the model uses for requested width `w` -/
theorem fwhm_of_width (w : ℝ) (hw : 0 < w) :
    |2 * (w / 2.35482) * Real.sqrt (2 * Real.log 2) - w| < 1e-7 * w := by
  have h := fwhm_constant
  have e : 2 * (w / 2.35482) * Real.sqrt (2 * Real.log 2) - w = w * (2 * Real.sqrt (2 * Real.log 2) / 2.35482 - 1) := by ring
  rw [e, abs_mul, abs_of_pos hw, mul_comm]
  exact mul_lt_mul_of_pos_right h hw

/-! ## the accumulation loop is a filtered sum -/

/-- sum of the contributions of the rows with charge state `q` -/
noncomputable def Spec.drSum (E sig : ℝ) (q : ℕ) : List (ℕ × ℕ × ℕ) → ℝ
  | [] => 0
  | (cs, er, st) :: r => (if cs = q then drTerm E sig er st else 0) + Spec.drSum E sig q r

theorem drSlot_eq_sum (E sig : ℝ) (q : ℕ) : ∀ (rows : List (ℕ × ℕ × ℕ)) (acc : ℝ),
    drSlot E sig q rows acc = acc + Spec.drSum E sig q rows
  | [], acc => by simp [drSlot, Spec.drSum]
  | (cs, er, st) :: rs, acc => by
    rw [drSlot, Spec.drSum, drSlot_eq_sum E sig q rs]
    split_ifs <;> ring

theorem drTerm_eq (E sig : ℝ) (er st : ℕ) :
    drTerm E sig er st = (ofScaled st scStr : ℝ) * Spec.normpdf E (ofScaled er scEres) sig * 1e-24 := by
  simp [drTerm, normpdf_eq_spec]

theorem drTerm_nonneg (E sig : ℝ) (er st : ℕ) : 0 ≤ drTerm E sig er st := by
  rw [drTerm_eq]
  have := normpdf_nonneg E (ofScaled er scEres) sig
  have := ofScaled_nonneg st scStr
  positivity

theorem drSum_nonneg (E sig : ℝ) (q : ℕ) : ∀ rows, 0 ≤ Spec.drSum E sig q rows
  | [] => le_rfl
  | (cs, er, st) :: rs => by
    rw [Spec.drSum]
    have := drTerm_nonneg E sig er st
    have := drSum_nonneg E sig q rs
    split_ifs <;> linarith

theorem drSum_zero_of_no_row (E sig : ℝ) (q : ℕ) : ∀ rows : List (ℕ × ℕ × ℕ), (∀ r ∈ rows, r.1 ≠ q) →
    Spec.drSum E sig q rows = 0
  | [], _ => rfl
  | (cs, er, st) :: rs, h => by
    obtain ⟨hne, hrs⟩ := List.forall_mem_cons.mp h
    rw [Spec.drSum, if_neg hne, zero_add, drSum_zero_of_no_row E sig q rs hrs]

/-- tabulated strength of charge state `q` (in 1e-24 m² eV) -/
noncomputable def Spec.strength (q : ℕ) : List (ℕ × ℕ × ℕ) → ℝ
  | [] => 0
  | (cs, _, st) :: r => (if cs = q then (ofScaled st scStr : ℝ) else 0) + Spec.strength q r

theorem drRow_integrable (sig : ℝ) (hs : 0 < sig) (q cs er st : ℕ) :
    Integrable fun E => if cs = q then drTerm E sig er st else 0 := by
  split_ifs
  · simp only [drTerm_eq]
    exact ((normpdf_integrable _ sig hs).const_mul _).mul_const _
  · exact integrable_zero _ _ _

theorem drSum_integrable (sig : ℝ) (hs : 0 < sig) (q : ℕ) : ∀ rows, Integrable (fun E => Spec.drSum E sig q rows)
  | [] => integrable_zero _ _ _
  | (cs, er, st) :: rs => (drRow_integrable sig hs q cs er st).add (drSum_integrable sig hs q rs)

/-- **strength preservation**: the integral over energy of the charge-state cross section equals
the sum of the tabulated strengths (× 1e-24) times `κ`, independently of the width -/
theorem dr_strength_preserved (sig : ℝ) (hs : 0 < sig) (q : ℕ) : ∀ rows,
    ∫ E : ℝ, Spec.drSum E sig q rows = Spec.strength q rows * 1e-24 * kappa := by
  intro rows
  induction rows with
  | nil => simp [Spec.drSum, Spec.strength]
  | cons r rs ih =>
    obtain ⟨cs, er, st⟩ := r
    simp only [Spec.drSum, Spec.strength]
    rw [integral_add (drRow_integrable sig hs q cs er st) (drSum_integrable sig hs q rs), ih]
    split_ifs
    · simp only [drTerm_eq]
      rw [integral_mul_const, integral_const_mul, normpdf_integral _ _ hs]
      ring
    · simp

/-! ## table facts over all 12012 resonances -/

theorem tables_ok : ((List.range' 1 105).all fun Z => (dr Z).all fun r =>
    Nat.ble 1 r.1 && Nat.ble r.1 Z && Nat.blt 0 r.2.1) = true := by decide +kernel

/-- **resonances are only ever assigned to charge states `1…Z`, at positive energies** -/
theorem dr_table_facts (Z : ℕ) (hZ1 : 1 ≤ Z) (hZ : Z ≤ 105) :
    ∀ r ∈ dr Z, 1 ≤ r.1 ∧ r.1 ≤ Z ∧ 0 < r.2.1 := by
  intro r hr
  have := List.all_eq_true.mp (List.all_eq_true.mp tables_ok Z (List.mem_range'_1.mpr (by omega))) r hr
  simpa [and_assoc] using this

/-- **C09 main theorem**: for every element, every `E`, every width, the vector has `Z+1` entries;
entry `q` is the sum of the Gaussians of the resonances tabulated for charge state `q`, hence
non-negative; the neutral entry is exactly 0. -/
theorem dr_main (Z : ℕ) (hZ1 : 1 ≤ Z) (hZ : Z ≤ 105) (E w : ℝ) :
    (drxsVec Z E w).length = Z + 1 ∧
    (∀ q (h : q < (drxsVec Z E w).length), (drxsVec Z E w)[q] = Spec.drSum E (w / 2.35482) q (dr Z) ∧ 0 ≤ (drxsVec Z E w)[q]) ∧
    (drxsVec Z E w)[0]? = some 0 := by
  have hget : ∀ q (h : q < (drxsVec Z E w).length), (drxsVec Z E w)[q] = Spec.drSum E (w / 2.35482) q (dr Z) := by
    intro q h
    simp only [drxsVec, List.getElem_map, List.getElem_range]
    rw [drSlot_eq_sum]; simp
  refine ⟨by simp [drxsVec], fun q h => ⟨hget q h, ?_⟩, ?_⟩
  · rw [hget q h]; exact drSum_nonneg _ _ _ _
  · have h0 : 0 < (drxsVec Z E w).length := by simp [drxsVec]
    rw [List.getElem?_eq_getElem h0, hget 0 h0, drSum_zero_of_no_row]
    intro r hr
    have := (dr_table_facts Z hZ1 hZ r hr).1
    omega

/-- **identically zero for elements without data** -/
theorem dr_no_data_zero (Z : ℕ) (h : dr Z = []) (E w : ℝ) : ∀ x ∈ drxsVec Z E w, x = 0 := by
  intro x hx
  simp only [drxsVec, h, List.mem_map, List.mem_range] at hx
  obtain ⟨q, _, rfl⟩ := hx
  simp [drSlot]

def countEmpty : ℕ → ℕ
  | 0 => 0
  | z + 1 => (if (dr (z + 1)).isEmpty then 1 else 0) + countEmpty z

/-- 14 elements have no resonance data, 91 do -/
theorem no_data_count : countEmpty 105 = 14 := by decide +kernel

-- non-vacuity: hydrogen has no data, iron has
example : dr 1 = [] := by decide +kernel
example : (dr 26).isEmpty = false := by decide +kernel

end C09
