import EbisimProofs.Lemmas.Lotz
import EbisimProofs.Props.C11

/-! # C08 — radiative recombination follows the Kim–Pratt formula

Model: `Xs.rrN0/rrOcc/rrShell/rrPre` (hand model of `precompute_rr_quantities`), `Xs.rrFormula`,
`Xs.rrxsVec` (hand model of `rrxs_vec`), bit-identical to the implementation on all 105 elements. -/
namespace C08
open Xs Num Gen

/-- documented formula: `(8πα/3√3) λ_e² χ ln(1 + χ/(2 n_eff²))`, `χ = 2 Z_eff² Ry / E` -/
noncomputable def Spec.kimPratt (zeff neff E : ℝ) : ℝ :=
  let chi := 2 * zeff ^ 2 * Const.RY_EV / E
  8 * Const.PI * Const.ALPHA / (3 * Real.sqrt 3) * Const.COMPT_E_RED ^ 2 * chi * Real.log (1 + chi / (2 * neff ^ 2))

theorem rrFormula_eq_spec (zeff neff E : ℝ) : rrFormula zeff neff E = Spec.kimPratt zeff neff E := by
  simp [rrFormula, Spec.kimPratt]

theorem kimPratt_pos (zeff neff E : ℝ) (hz : 0 < zeff) (hn : 0 < neff) (hE : 0 < E) :
    0 < Spec.kimPratt zeff neff E := by
  unfold Spec.kimPratt
  have hR := Const.RY_EV_pos; have hP := Const.PI_pos; have hA := Const.ALPHA_pos; have hC := Const.COMPT_E_RED_pos
  have hchi : 0 < 2 * zeff ^ 2 * Const.RY_EV / E := by positivity
  have : 0 < Real.log (1 + 2 * zeff ^ 2 * Const.RY_EV / E / (2 * neff ^ 2)) := Real.log_pos (by
    have : 0 < 2 * zeff ^ 2 * Const.RY_EV / E / (2 * neff ^ 2) := by positivity
    linarith)
  positivity

theorem kimPratt_strictAnti (zeff neff : ℝ) (hz : 0 < zeff) (hn : 0 < neff) :
    StrictAntiOn (Spec.kimPratt zeff neff) (Set.Ioi 0) := by
  intro E1 hE1 E2 hE2 h12
  simp only [Set.mem_Ioi] at hE1 hE2
  have hR := Const.RY_EV_pos; have hP := Const.PI_pos; have hA := Const.ALPHA_pos; have hC := Const.COMPT_E_RED_pos
  have hc : 0 < 2 * zeff ^ 2 * Const.RY_EV := by positivity
  have chi_lt : 2 * zeff ^ 2 * Const.RY_EV / E2 < 2 * zeff ^ 2 * Const.RY_EV / E1 := div_lt_div_of_pos_left hc hE1 h12
  have chi2_pos : 0 < 2 * zeff ^ 2 * Const.RY_EV / E2 := by positivity
  have hK : 0 < 8 * Const.PI * Const.ALPHA / (3 * Real.sqrt 3) * Const.COMPT_E_RED ^ 2 := by positivity
  have hnn : 0 < 2 * neff ^ 2 := by positivity
  have arg2 : 1 < 1 + 2 * zeff ^ 2 * Const.RY_EV / E2 / (2 * neff ^ 2) := lt_add_of_pos_right _ (by positivity)
  unfold Spec.kimPratt
  -- `K χ` and `log (1 + χ / (2 n²))` are both positive and increase with `χ = 2 z² Ry / E`
  exact mul_lt_mul'' (mul_lt_mul_of_pos_left chi_lt hK) (Real.log_lt_log (by linarith) (by gcongr))
    (by positivity) (Real.log_pos arg2).le

/-- `rrN0` is an upper bound of the principal quantum numbers of the occupied shells … -/
theorem rrN0_ge : ∀ (c ns : List ℕ) (i : ℕ) (h1 : i < c.length) (h2 : i < ns.length), 0 < c[i] → ns[i] ≤ rrN0 c ns := by
  intro c ns i h1 h2 hpos
  have hmem : ns[i] ∈ occupied c ns := mem_occupied.mpr ⟨i, h1, h2, hpos, rfl⟩
  obtain ⟨m, hm⟩ := Option.isSome_iff_exists.mp (List.isSome_max?_of_mem hmem)
  rw [rrN0_eq_max?, hm]
  exact (List.max?_eq_some_iff.mp hm).2 _ hmem

/-- … and it is attained by an occupied shell (when one exists): it is *the highest occupied
principal shell* -/
theorem rrN0_attained : ∀ (c ns : List ℕ), 0 < rrN0 c ns →
    ∃ (i : ℕ) (h1 : i < c.length) (h2 : i < ns.length), 0 < c[i] ∧ ns[i] = rrN0 c ns := by
  intro c ns h
  rw [rrN0_eq_max?] at h ⊢
  cases hm : (occupied c ns).max? with
  | none => simp [hm] at h
  | some m => exact mem_occupied.mp (List.max?_eq_some_iff.mp hm).1

/-! ## every charge state has `1 ≤ n0` and `occ ≤ 2 n0²`

Some sub-shell of every row is occupied and the occupations stay within the sub-shell capacities: that is the
table walk `C11.tables_checked`. Decided here (`shell_capacity`, 30 entries): the capacities of principal shell
`n` add up to at most `2 n²`. -/

theorem rrOcc_le_of_capOk (n : ℕ) : ∀ (c k ns : List ℕ), C11.capOk c k = true → rrOcc n c ns ≤ rrOcc n k ns
  | [], _, _, _ => by simp [rrOcc]
  | _ :: _, _ :: _, [], _ => by simp [rrOcc]
  | x :: xs, y :: ys, m :: ms, h => by
    simp only [C11.capOk, Bool.and_eq_true, Nat.ble_eq] at h
    have := rrOcc_le_of_capOk n xs ys ms h.2
    simp only [rrOcc]
    split_ifs <;> omega

theorem shell_capacity : C11.caps.length = shellN.length ∧
    ∀ n ∈ shellN, 1 ≤ n ∧ rrOcc n C11.caps shellN ≤ 2 * n * n := by decide

theorem rrRow_facts (c : List ℕ) (hcap : C11.capOk c C11.caps = true) (i : ℕ) (hi : i < c.length) (hpos : 0 < c[i]) :
    1 ≤ rrN0 c shellN ∧ rrOcc (rrN0 c shellN) c shellN ≤ 2 * rrN0 c shellN * rrN0 c shellN := by
  have hi' : i < shellN.length := by
    have := ((C11.capOk_iff _ _).mp hcap).1
    rw [shell_capacity.1] at this
    omega
  -- `n0` is at least the principal quantum number of the occupied sub-shell `i`, and it is one of `shellN`
  have hge := rrN0_ge c shellN i hi hi' hpos
  have h1n := (shell_capacity.2 _ (List.getElem_mem hi')).1
  obtain ⟨j, _, hj, _, hatt⟩ := rrN0_attained c shellN (by omega)
  have hocc := (shell_capacity.2 _ (List.getElem_mem hj)).2
  rw [hatt] at hocc
  exact ⟨by omega, (rrOcc_le_of_capOk _ _ _ _ hcap).trans hocc⟩

theorem rrShell_facts (Z q : ℕ) (hZ1 : 1 ≤ Z) (hZ : Z ≤ 105) (hq : q ≤ Z) :
    (rrShell Z).length = Z + 1 ∧ ∃ h : q < (rrShell Z).length,
      1 ≤ (rrShell Z)[q].1 ∧ (rrShell Z)[q].2 ≤ 2 * (rrShell Z)[q].1 * (rrShell Z)[q].1 := by
  have hlen : (cfg Z).length = Z := (C11.tables_sound Z hZ1 hZ).1
  refine ⟨by simp [rrShell, hlen], by simp [rrShell, hlen]; omega, ?_⟩
  rcases hq.lt_or_eq with hq | rfl
  · obtain ⟨_, _, h1, _, hrow⟩ := C11.shell_rows Z q hZ1 hZ hq
    -- The table walk records that a row has an occupied sub-shell only as "it has a lowest binding energy"
    -- (the electron count `rowSum` is not checked on the `knownBad` rows).
    obtain ⟨_, _, hsome⟩ := C11.minBindN_isSome Z q hZ1 hZ hq
    obtain ⟨m, hm⟩ := Option.isSome_iff_exists.mp hsome
    rw [minBindN_eq_min?] at hm
    obtain ⟨i, hi, _, hpos, _⟩ := mem_occupied.mp (List.min?_eq_some_iff.mp hm).1
    simp only [rrShell, List.getElem_append_left (show q < ((cfg Z).map _).length by simpa using h1), List.getElem_map]
    exact rrRow_facts _ hrow.capOk i hi hpos
  · simp [rrShell, hlen]

/-- documented effective quantum number `n_eff = n0 + (1 − w) − 0.3`, vacancy fraction
`w = (2 n0² − occ)/(2 n0²)`, i.e. `n0 + occ/(2 n0²) − 0.3` -/
noncomputable def Spec.nEff (n0 occ : ℕ) : ℝ := (n0 : ℝ) + (occ : ℝ) / (2 * (n0 : ℝ) ^ 2) - 0.3
noncomputable def Spec.zEff (Z q : ℕ) : ℝ := ((Z : ℝ) + (q : ℝ)) / 2

theorem zEff_pos (Z q : ℕ) (hZ1 : 1 ≤ Z) : 0 < Spec.zEff Z q := by
  have : (0 : ℝ) < (Z : ℝ) := by exact_mod_cast hZ1
  unfold Spec.zEff
  positivity

/-- the expression of `rrPreGo` for `n_eff` is the documented one (`1 ≤ n0` keeps `2 n0²` from vanishing) -/
theorem nEff_eq (n0 oc : ℕ) (h : 1 ≤ n0) :
    (n0 : ℝ) + (1 - (2 * (n0 : ℝ) ^ 2 - oc) / (2 * (n0 : ℝ) ^ 2)) - 0.3 = Spec.nEff n0 oc := by
  have hn0 : (0 : ℝ) < (n0 : ℝ) := by exact_mod_cast h
  unfold Spec.nEff
  field_simp
  ring

theorem rrPreGo_eq_map (Z : ℕ) : ∀ (l : List (ℕ × ℕ)) (q : ℕ), rrPreGo (α := ℝ) Z l q =
    (l.zipIdx q).map fun p =>
      (Spec.zEff Z p.2, (p.1.1 : ℝ) + (1 - (2 * (p.1.1 : ℝ) ^ 2 - p.1.2) / (2 * (p.1.1 : ℝ) ^ 2)) - 0.3)
  | [], _ => rfl
  | (n0, oc) :: r, q => by simp [rrPreGo, rrPreGo_eq_map Z r (q + 1), Spec.zEff]

theorem rrPre_length (Z : ℕ) : (rrPre (α := ℝ) Z).length = (rrShell Z).length := by
  simp [rrPre, rrPreGo_eq_map]

/-- **precomputed quantities equal the documented ones for every element and charge state**,
and the effective quantum number is at least 0.7 -/
theorem rr_precompute_eq_spec (Z q : ℕ) (hZ1 : 1 ≤ Z) (hZ : Z ≤ 105) (hq : q ≤ Z) :
    ∃ (h1 : q < (rrPre (α := ℝ) Z).length) (h2 : q < (rrShell Z).length),
      (rrPre (α := ℝ) Z)[q] = (Spec.zEff Z q, Spec.nEff (rrShell Z)[q].1 (rrShell Z)[q].2) ∧
      (0.7 : ℝ) ≤ Spec.nEff (rrShell Z)[q].1 (rrShell Z)[q].2 := by
  obtain ⟨hlen, h2, hn, hocc⟩ := rrShell_facts Z q hZ1 hZ hq
  refine ⟨by rwa [rrPre_length], h2, ?_, ?_⟩
  · simp [rrPre, rrPreGo_eq_map, nEff_eq _ _ hn]
  · unfold Spec.nEff
    have hn0 : (1 : ℝ) ≤ ((rrShell Z)[q].1 : ℝ) := by exact_mod_cast hn
    have : (0 : ℝ) ≤ ((rrShell Z)[q].2 : ℝ) / (2 * ((rrShell Z)[q].1 : ℝ) ^ 2) := by positivity
    linarith

/-- the bare nucleus: `n0 = 1`, no electrons -/
theorem rr_bare (Z : ℕ) : (rrShell Z).getLast? = some (1, 0) := by simp [rrShell]

theorem rrxsVec_length (Z : ℕ) (E : ℝ) : (rrxsVec Z E).length = (rrPre (α := ℝ) Z).length := by
  unfold rrxsVec
  split <;> simp_all

/-- entry by entry, in the `[q]?` form so that the `match` of `rrxsVec` can be generalised -/
theorem rrxsVec_getElem? (Z : ℕ) (E : ℝ) (q : ℕ) : (rrxsVec Z E)[q]? =
    (rrPre (α := ℝ) Z)[q]?.map fun p => if q = 0 then 0 else rrFormula p.1 p.2 E := by
  unfold rrxsVec
  generalize rrPre (α := ℝ) Z = l
  cases l with
  | nil => simp
  | cons p0 rest => cases q <;> simp

/-- **C08 main theorem.** For every element, every ion charge state `1 ≤ q ≤ Z` and every energy
the entry of the vector is the Kim–Pratt expression with `Z_eff = (Z+q)/2` and the documented
`n_eff`; for `E > 0` it is strictly positive. -/
theorem rr_main (Z q : ℕ) (hZ1 : 1 ≤ Z) (hZ : Z ≤ 105) (hq1 : 1 ≤ q) (hq : q ≤ Z) (E : ℝ) :
    ∃ (h : q < (rrxsVec Z E).length) (h2 : q < (rrShell Z).length),
      (rrxsVec Z E)[q] = Spec.kimPratt (Spec.zEff Z q) (Spec.nEff (rrShell Z)[q].1 (rrShell Z)[q].2) E ∧
      (0 < E → 0 < (rrxsVec Z E)[q]) := by
  obtain ⟨h1, h2, hpre, hneff⟩ := rr_precompute_eq_spec Z q hZ1 hZ hq
  have h : q < (rrxsVec Z E).length := by rwa [rrxsVec_length]
  have hget : (rrxsVec Z E)[q] = Spec.kimPratt (Spec.zEff Z q) (Spec.nEff (rrShell Z)[q].1 (rrShell Z)[q].2) E := by
    have := rrxsVec_getElem? Z E q
    rw [List.getElem?_eq_getElem h, List.getElem?_eq_getElem h1, hpre] at this
    simpa [rrFormula_eq_spec, Nat.ne_of_gt hq1] using this
  refine ⟨h, h2, hget, fun hE => ?_⟩
  rw [hget]
  exact kimPratt_pos _ _ _ (zEff_pos Z q hZ1) (by linarith) hE

/-- **exactly zero for neutrals**, and one entry per charge state `0…Z` -/
theorem rr_neutral_zero (Z : ℕ) (hZ1 : 1 ≤ Z) (hZ : Z ≤ 105) (E : ℝ) :
    (rrxsVec Z E).length = Z + 1 ∧ (rrxsVec Z E)[0]? = some 0 := by
  have hl : (rrPre (α := ℝ) Z).length = Z + 1 := (rrPre_length Z).trans (rrShell_facts Z 0 hZ1 hZ (by omega)).1
  refine ⟨(rrxsVec_length Z E).trans hl, ?_⟩
  rw [rrxsVec_getElem?, List.getElem?_eq_getElem (by omega)]
  rfl

/-- **strictly decreasing in E for every ion** -/
theorem rr_strictAnti (Z q : ℕ) (hZ1 : 1 ≤ Z) (hZ : Z ≤ 105) (hq1 : 1 ≤ q) (hq : q ≤ Z) :
    ∃ f : ℝ → ℝ, StrictAntiOn f (Set.Ioi 0) ∧ ∀ E : ℝ, (rrxsVec Z E)[q]? = some (f E) := by
  obtain ⟨_, h2, _, hneff⟩ := rr_precompute_eq_spec Z q hZ1 hZ hq
  refine ⟨Spec.kimPratt (Spec.zEff Z q) (Spec.nEff (rrShell Z)[q].1 (rrShell Z)[q].2), ?_, ?_⟩
  · exact kimPratt_strictAnti _ _ (zEff_pos Z q hZ1) (by linarith)
  · intro E
    obtain ⟨h, _, he, _⟩ := rr_main Z q hZ1 hZ hq1 hq E
    rw [List.getElem?_eq_getElem h, he]

-- non-vacuity: He-like iron (q = 24): n0 = 1, two electrons
example : (rrShell 26)[24]? = some (1, 2) := by decide +kernel

end C08
