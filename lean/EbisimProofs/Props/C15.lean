import EbisimProofs.Lemmas.Velocity

/-! # C15 — plasma rate formulas: documented expressions and symmetries

The definitions `Gen.*` are *generated* from `ebisim/plasma.py` on every run (tools/translate.py);
the specifications in `namespace Spec` are written independently from the docstrings
(NRL formulary / Spitzer).  A change of a formula in the source therefore breaks a `…_eq_spec`
lemma (or one of the symmetry / sign theorems that are proved through it). -/
namespace C15
open Gen Num Real

namespace Spec
noncomputable section
/-- `v_e = c √(1 − (m_e c²/(m_e c² + E))²)` -/
def ve (E : ℝ) : ℝ := Const.C_L * Real.sqrt (1 - (Const.M_E_EV / (Const.M_E_EV + E)) ^ 2)

/-- NRL e–i Coulomb logarithm: densities in cm⁻³, the three formulary regions; the fourth
region is the package's documented "rough guess"; never negative. -/
def clogEi (Ni Ne Ti Te Ai qi : ℝ) : ℝ :=
  let ne := Ne * 1e-6
  let ni := Ni * 1e-6
  let red := Ti * Const.M_E / (Ai * Const.M_P)
  max 0 (if red ≤ Te ∧ Te ≤ 10 * qi ^ 2 then 23 - Real.log (ne ^ (1/2 : ℝ) * qi * Te ^ (-(3/2) : ℝ))
    else if red ≤ 10 * qi ^ 2 ∧ 10 * qi ^ 2 ≤ Te then 24 - Real.log (ne ^ (1/2 : ℝ) / Te)
    else if Te ≤ red then 16 - Real.log (ni ^ (1/2 : ℝ) * Ti ^ (-(3/2) : ℝ) * qi ^ 2 * Ai)
    else 24 - Real.log (ne ^ (1/2 : ℝ) / Te))

/-- NRL i–i Coulomb logarithm -/
def clogIi (Ni Nj Ti Tj Ai Aj qi qj : ℝ) : ℝ :=
  23 - Real.log (qi * qj * (Ai + Aj) / (Ai * Tj + Aj * Ti)
    * ((Ni * qi ^ 2 / Ti + Nj * qj ^ 2 / Tj) * 1e-6) ^ (1/2 : ℝ))

/-- `σ_i = 4π (q_i e²/(4π ε₀ m_e))² ln Λ_ei / v_e⁴`, zero for neutrals -/
def coulombXs (Ni Ne Ti Ee Ai qi : ℝ) : ℝ :=
  if qi = 0 then 0 else
    4 * Const.PI * (qi * Const.Q_E ^ 2 / (4 * Const.PI * Const.EPS_0 * Const.M_E)) ^ 2
      * clogEi Ni Ne Ti Ee Ai qi / ve Ee ^ 4

/-- `ν_ij = 1/(4πε₀)² · 4√(2π)/3 · N_j (q_i q_j e²/m_i)² (m_i/kT_i)^{3/2} ln Λ_ij`, clamped -/
def collRate (Ni Nj Ti Tj Ai Aj qi qj : ℝ) : ℝ :=
  if Ni ≤ Const.MINIMAL_N_3D ∨ Nj ≤ Const.MINIMAL_N_3D ∨ Ti ≤ 0 ∨ Tj ≤ 0 ∨ qi = 0 ∨ qj = 0 then 0 else
    max 0 (1 / (4 * Const.PI * Const.EPS_0) ^ 2 * (4 * Real.sqrt (2 * Const.PI) / 3) * Nj
      * (qi * qj * Const.Q_E ^ 2 / (Ai * Const.M_P)) ^ 2
      * (Ai * Const.M_P / (Ti * Const.Q_E)) ^ (3/2 : ℝ) * clogIi Ni Nj Ti Tj Ai Aj qi qj)

/-- Spitzer heating `2/3 N_e v_e σ_i 2 m_e/m_i E_e`, clamped -/
def spitzer (Ni Ne Ti Ee Ai qi : ℝ) : ℝ :=
  if Ni < Const.MINIMAL_N_3D then 0 else
    max 0 (2 / 3 * Ne * ve Ee * coulombXs Ni Ne Ti Ee Ai qi * 2 * (Const.M_E / (Ai * Const.M_P)) * Ee)

/-- `2 ν_ij (m_i/m_j) (T_j − T_i) / (1 + m_i T_j/(m_j T_i))^{3/2}` -/
def thermalisation (Ti Tj Ai Aj ν : ℝ) : ℝ :=
  if Ti ≤ 0 ∨ Tj ≤ 0 then 0 else
    2 * ν * (Ai / Aj) * (Tj - Ti) / (1 + Ai * Tj / (Aj * Ti)) ^ (3/2 : ℝ)

def trapAx (T q V : ℝ) : ℝ := q * V / T
def trapRa (T q A V B r : ℝ) : ℝ := q * (V + B * r * Real.sqrt (2 * T * Const.Q_E / (3 * Const.M_P * A))) / T

/-- `3/√2 · ν · e^{-ω}/ω` with ω clamped at 0.1 -/
def escape (ν w : ℝ) : ℝ := 3 / Real.sqrt 2 * ν * Real.exp (-(max w 0.1)) / (max w 0.1)
end
end Spec

/-! ## generated definition = documented expression -/

theorem electron_velocity_eq_spec (E : ℝ) : electron_velocity E = Spec.ve E := electron_velocity_eq E

theorem clog_ei_eq_spec (Ni Ne Ti Te Ai qi : ℝ) :
    clog_ei Ni Ne Ti Te Ai qi = Spec.clogEi Ni Ne Ti Te Ai qi := by
  have n3 : (23.0 : ℝ) = 23 := by norm_num
  have n4 : (24.0 : ℝ) = 24 := by norm_num
  have n5 : (16.0 : ℝ) = 16 := by norm_num
  have n6 : (1.0e-6 : ℝ) = 1e-6 := by norm_num
  -- the clamp of each branch is `max 0`, which the specification applies once, outside
  simp only [clog_ei, Spec.clogEi, lit_real, Transc.rpow_real, Transc.log_real, Nat.cast_ofNat, Nat.cast_zero,
    clamp_real, apply_ite (max (0 : ℝ)), half_real, three_halves_real, n3, n4, n5, n6]
  -- what is left differs in the order of factors, in the region tests and under the logarithms alike: `ring_nf` brings both sides
  -- to one normal form wherever the factors stand, so a kernel regenerated with its factors in another order still passes
  ring_nf

theorem clog_ii_eq_spec (Ni Nj Ti Tj Ai Aj qi qj : ℝ) :
    clog_ii Ni Nj Ti Tj Ai Aj qi qj = Spec.clogIi Ni Nj Ti Tj Ai Aj qi qj := by
  have n6 : (1.0e-6 : ℝ) = 1e-6 := by norm_num
  simp only [clog_ii, Spec.clogIi, lit_real, Transc.rpow_real, Transc.log_real, Nat.cast_ofNat, half_real, n6]
  -- `q * q` against `q ^ 2` under the square root: normalise inside the function arguments too
  ring_nf

theorem coulomb_xs_eq_spec (Ni Ne Ti Ee Ai qi : ℝ) :
    coulomb_xs Ni Ne Ti Ee Ai qi = Spec.coulombXs Ni Ne Ti Ee Ai qi := by
  simp only [coulomb_xs, Spec.coulombXs, lit_real, powN_real, Nat.cast_ofNat, Nat.cast_zero, electron_velocity_eq_spec,
    clog_ei_eq_spec, ← le_antisymm_iff, zero_float_real]
  refine if_congr Iff.rfl rfl ?_
  ring

theorem ion_coll_rate_eq_spec (Ni Nj Ti Tj Ai Aj qi qj : ℝ) :
    ion_coll_rate Ni Nj Ti Tj Ai Aj qi qj = Spec.collRate Ni Nj Ti Tj Ai Aj qi qj := by
  -- the two nested guards of the kernel are the one disjunction of the specification
  simp only [ion_coll_rate, Spec.collRate, lit_real, powN_real, Nat.cast_ofNat, Nat.cast_zero, Transc.rpow_real,
    Transc.sqrt_real, clog_ii_eq_spec, max'_real, ← le_antisymm_iff, three_halves_real, zero_float_real, ← ite_or,
    or_assoc, max_comm _ (0 : ℝ)]
  refine if_congr Iff.rfl rfl (congrArg (max 0) ?_)
  ring

theorem spitzer_heating_eq_spec (Ni Ne Ti Ee Ai qi : ℝ) :
    spitzer_heating Ni Ne Ti Ee Ai qi = Spec.spitzer Ni Ne Ti Ee Ai qi := by
  simp only [spitzer_heating, Spec.spitzer, lit_real, Nat.cast_ofNat, Nat.cast_zero, electron_velocity_eq_spec,
    coulomb_xs_eq_spec, max'_real, zero_float_real]
  refine if_congr Iff.rfl rfl (congrArg (max 0) ?_)
  ring

theorem collisional_thermalisation_eq_spec (Ti Tj Ai Aj ν : ℝ) :
    collisional_thermalisation Ti Tj Ai Aj ν = Spec.thermalisation Ti Tj Ai Aj ν := by
  simp only [collisional_thermalisation, Spec.thermalisation, lit_real, Nat.cast_ofNat, Nat.cast_zero, Nat.cast_one,
    Transc.rpow_real, three_halves_real]
  refine if_congr Iff.rfl rfl ?_
  ring

theorem trapping_strength_axial_eq_spec (T q V : ℝ) : trapping_strength_axial T q V = Spec.trapAx T q V := rfl

theorem trapping_strength_radial_eq_spec (T q A V B r : ℝ) :
    trapping_strength_radial T q A V B r = Spec.trapRa T q A V B r := by
  simp only [trapping_strength_radial, Spec.trapRa, lit_real, Nat.cast_ofNat, Transc.sqrt_real]

theorem collisional_escape_rate_eq_spec (ν w : ℝ) : collisional_escape_rate ν w = Spec.escape ν w := by
  simp only [collisional_escape_rate, Spec.escape, lit_real, Nat.cast_ofNat, Transc.sqrt_real, Transc.exp_real]
  split_ifs with h
  · rw [max_eq_right h]
  · rw [max_eq_left (not_le.mp h).le]

/-! ## symmetries, signs, monotonicity -/

theorem clogIi_symm (Ni Nj Ti Tj Ai Aj qi qj : ℝ) :
    Spec.clogIi Ni Nj Ti Tj Ai Aj qi qj = Spec.clogIi Nj Ni Tj Ti Aj Ai qj qi := by
  unfold Spec.clogIi
  rw [mul_comm qi qj, add_comm Ai Aj, add_comm (Ai * Tj), add_comm (Ni * qi ^ 2 / Ti)]

/-- the i–i Coulomb logarithm is symmetric under exchange of the species -/
theorem clog_ii_symm (Ni Nj Ti Tj Ai Aj qi qj : ℝ) :
    clog_ii Ni Nj Ti Tj Ai Aj qi qj = clog_ii Nj Ni Tj Ti Aj Ai qj qi := by
  rw [clog_ii_eq_spec, clog_ii_eq_spec, clogIi_symm]

theorem clog_ei_nonneg (Ni Ne Ti Te Ai qi : ℝ) : 0 ≤ clog_ei Ni Ne Ti Te Ai qi := by
  rw [clog_ei_eq_spec]; exact le_max_left _ _

theorem coulomb_xs_zero_of_neutral (Ni Ne Ti Ee Ai : ℝ) : coulomb_xs Ni Ne Ti Ee Ai 0 = 0 := by
  rw [coulomb_xs_eq_spec]; simp [Spec.coulombXs]

theorem coulomb_xs_nonneg (Ni Ne Ti Ee Ai qi : ℝ) : 0 ≤ coulomb_xs Ni Ne Ti Ee Ai qi := by
  rw [coulomb_xs_eq_spec]; unfold Spec.coulombXs
  split_ifs
  · exact le_refl _
  · have h1 : 0 ≤ Spec.clogEi Ni Ne Ti Ee Ai qi := le_max_left _ _
    have h2 := Const.PI_pos
    positivity

theorem coll_rate_nonneg (Ni Nj Ti Tj Ai Aj qi qj : ℝ) : 0 ≤ ion_coll_rate Ni Nj Ti Tj Ai Aj qi qj := by
  rw [ion_coll_rate_eq_spec]; unfold Spec.collRate
  split_ifs
  · exact le_refl _
  · exact le_max_left _ _

theorem coll_rate_zero_of_neutral (Ni Nj Ti Tj Ai Aj q : ℝ) :
    ion_coll_rate Ni Nj Ti Tj Ai Aj 0 q = 0 ∧ ion_coll_rate Ni Nj Ti Tj Ai Aj q 0 = 0 := by
  rw [ion_coll_rate_eq_spec, ion_coll_rate_eq_spec]; simp [Spec.collRate]

theorem coll_rate_zero_of_low_density (Ni Nj Ti Tj Ai Aj qi qj : ℝ)
    (h : Ni ≤ Const.MINIMAL_N_3D ∨ Nj ≤ Const.MINIMAL_N_3D) :
    ion_coll_rate Ni Nj Ti Tj Ai Aj qi qj = 0 := by
  rw [ion_coll_rate_eq_spec, Spec.collRate]
  -- `h` is the first two alternatives of the guard
  exact if_pos (h.elim Or.inl fun h => Or.inr (Or.inl h))

theorem spitzer_nonneg (Ni Ne Ti Ee Ai qi : ℝ) : 0 ≤ spitzer_heating Ni Ne Ti Ee Ai qi := by
  rw [spitzer_heating_eq_spec]; unfold Spec.spitzer
  split_ifs
  · exact le_refl _
  · exact le_max_left _ _

theorem spitzer_zero_of_low_density (Ni Ne Ti Ee Ai qi : ℝ) (h : Ni < Const.MINIMAL_N_3D) :
    spitzer_heating Ni Ne Ti Ee Ai qi = 0 := by
  rw [spitzer_heating_eq_spec]; simp [Spec.spitzer, h]

/-- **Spitzer heating vanishes for neutrals** (through the Coulomb cross section) -/
theorem spitzer_zero_of_neutral (Ni Ne Ti Ee Ai : ℝ) : spitzer_heating Ni Ne Ti Ee Ai 0 = 0 := by
  rw [spitzer_heating_eq_spec]
  simp [Spec.spitzer, Spec.coulombXs]

/-- heat flows from the hotter to the colder population -/
theorem heat_hot_to_cold (Ti Tj Ai Aj ν : ℝ) (hTi : 0 < Ti) (hTj : 0 < Tj) (hAi : 0 < Ai) (hAj : 0 < Aj)
    (hν : 0 < ν) :
    (0 < collisional_thermalisation Ti Tj Ai Aj ν ↔ Ti < Tj) ∧
    (collisional_thermalisation Ti Tj Ai Aj ν < 0 ↔ Tj < Ti) := by
  -- a positive factor times `T_j − T_i`
  have hc : 0 < 2 * ν * (Ai / Aj) / (1 + Ai * Tj / (Aj * Ti)) ^ (3/2 : ℝ) := by positivity
  rw [collisional_thermalisation_eq_spec, Spec.thermalisation, if_neg (not_or.mpr ⟨hTi.not_ge, hTj.not_ge⟩),
    mul_div_right_comm]
  constructor
  · rw [mul_pos_iff_of_pos_left hc, sub_pos]
  · rw [← neg_pos, ← mul_neg, mul_pos_iff_of_pos_left hc, neg_sub, sub_pos]

theorem thermalisation_zero_rate (Ti Tj Ai Aj : ℝ) : Spec.thermalisation Ti Tj Ai Aj 0 = 0 := by
  simp only [Spec.thermalisation, mul_zero, zero_mul, zero_div, ite_self]

theorem clamp_symm {Ni Nj Ti Tj qi qj M : ℝ} : (Ni ≤ M ∨ Nj ≤ M ∨ Ti ≤ 0 ∨ Tj ≤ 0 ∨ qi = 0 ∨ qj = 0) →
    (Nj ≤ M ∨ Ni ≤ M ∨ Tj ≤ 0 ∨ Ti ≤ 0 ∨ qj = 0 ∨ qi = 0) := by
  rintro (h | h | h | h | h | h) <;> simp only [h, true_or, or_true]

/-- outside the guard the prefactor of `ν_ij` is non-negative, so the clamp acts on the Coulomb logarithm alone -/
theorem collRate_of_pos {Ni Nj Ti Tj Ai Aj qi qj : ℝ}
    (h : ¬ (Ni ≤ Const.MINIMAL_N_3D ∨ Nj ≤ Const.MINIMAL_N_3D ∨ Ti ≤ 0 ∨ Tj ≤ 0 ∨ qi = 0 ∨ qj = 0)) (hAi : 0 < Ai) :
    Spec.collRate Ni Nj Ti Tj Ai Aj qi qj =
      1 / (4 * Const.PI * Const.EPS_0) ^ 2 * (4 * Real.sqrt (2 * Const.PI) / 3) * Nj
      * (qi * qj * Const.Q_E ^ 2 / (Ai * Const.M_P)) ^ 2
      * (Ai * Const.M_P / (Ti * Const.Q_E)) ^ (3/2 : ℝ) * max 0 (Spec.clogIi Ni Nj Ti Tj Ai Aj qi qj) := by
  have hM := Const.M_P_pos
  have hQ := Const.Q_E_pos
  rw [Spec.collRate, if_neg h]
  push Not at h
  have hNj := Const.MINIMAL_N_3D_pos.trans h.2.1
  have hTi := h.2.2.1
  rw [mul_max_of_nonneg _ _ (by positivity), mul_zero]

/-- `N_i (dT_i)_j` with an unclamped rate, in a form that is visibly antisymmetric under `i ↔ j`:
`(m_i/(T_i e))^{3/2} / (1 + m_i T_j/(m_j T_i))^{3/2} = (m_i m_j/(e (m_j T_i + m_i T_j)))^{3/2}` -/
theorem exchange_symm_form {Ti Tj Ai Aj : ℝ} (hTi : 0 < Ti) (hTj : 0 < Tj) (hAi : 0 < Ai) (hAj : 0 < Aj) (Ni Nj K X L : ℝ) :
    Ni * (2 * (K * Nj * (X / (Ai * Const.M_P)) ^ 2 * (Ai * Const.M_P / (Ti * Const.Q_E)) ^ (3/2 : ℝ) * L)
        * (Ai / Aj) * (Tj - Ti) / (1 + Ai * Tj / (Aj * Ti)) ^ (3/2 : ℝ)) =
      2 * K * L * Ni * Nj * X ^ 2 / (Ai * Aj * Const.M_P ^ 2)
        * (Ai * Aj * Const.M_P / (Const.Q_E * (Aj * Ti + Ai * Tj))) ^ (3/2 : ℝ) * (Tj - Ti) := by
  have hQ := Const.Q_E_pos
  have hM := Const.M_P_pos
  have key : (Ai * Const.M_P / (Ti * Const.Q_E)) ^ (3/2 : ℝ) / (1 + Ai * Tj / (Aj * Ti)) ^ (3/2 : ℝ) =
      (Ai * Aj * Const.M_P / (Const.Q_E * (Aj * Ti + Ai * Tj))) ^ (3/2 : ℝ) := by
    rw [← Real.div_rpow (by positivity) (by positivity)]
    congr 1
    field_simp
  have e : (X / (Ai * Const.M_P)) ^ 2 * (Ai / Aj) = X ^ 2 / (Ai * Aj * Const.M_P ^ 2) := by field_simp
  rw [← key]
  linear_combination (2 * K * L * Ni * Nj * (Tj - Ti) * (Ai * Const.M_P / (Ti * Const.Q_E)) ^ (3/2 : ℝ)
    / (1 + Ai * Tj / (Aj * Ti)) ^ (3/2 : ℝ)) * e

/-- **pairwise heat exchange conserves energy**: `N_i (dT_i)_j = − N_j (dT_j)_i`, with the collision
rates of the package, including every clamped case -/
theorem heat_exchange_conserves (Ni Nj Ti Tj Ai Aj qi qj : ℝ) (hAi : 0 < Ai) (hAj : 0 < Aj) :
    Ni * collisional_thermalisation Ti Tj Ai Aj (ion_coll_rate Ni Nj Ti Tj Ai Aj qi qj) =
      -(Nj * collisional_thermalisation Tj Ti Aj Ai (ion_coll_rate Nj Ni Tj Ti Aj Ai qj qi)) := by
  rw [collisional_thermalisation_eq_spec, collisional_thermalisation_eq_spec, ion_coll_rate_eq_spec, ion_coll_rate_eq_spec]
  by_cases hc : Ni ≤ Const.MINIMAL_N_3D ∨ Nj ≤ Const.MINIMAL_N_3D ∨ Ti ≤ 0 ∨ Tj ≤ 0 ∨ qi = 0 ∨ qj = 0
  · -- a rate that is clamped is clamped in both directions, and no rate means no exchange
    rw [Spec.collRate, Spec.collRate, if_pos hc, if_pos (clamp_symm hc), thermalisation_zero_rate,
      thermalisation_zero_rate, mul_zero, mul_zero, neg_zero]
  · rw [collRate_of_pos hc hAi, collRate_of_pos (mt clamp_symm hc) hAj, ← clogIi_symm]
    push Not at hc
    obtain ⟨-, -, hTi, hTj, -, -⟩ := hc
    -- both sides in the closed form that `i ↔ j` changes only in the sign of `T_j − T_i`
    rw [Spec.thermalisation, Spec.thermalisation, if_neg (not_or.mpr ⟨hTi.not_ge, hTj.not_ge⟩),
      if_neg (not_or.mpr ⟨hTj.not_ge, hTi.not_ge⟩), exchange_symm_form hTi hTj hAi hAj, exchange_symm_form hTj hTi hAj hAi,
      mul_comm qj qi, mul_comm Aj Ai, add_comm (Ai * Tj)]
    ring

theorem ve_pos (E : ℝ) (hE : 0 < E) : 0 < electron_velocity E := electron_velocity_pos hE

theorem ve_lt_c (E : ℝ) (hE : 0 ≤ E) : electron_velocity E < Const.C_L := by
  rw [electron_velocity_eq]
  refine mul_lt_of_lt_one_right Const.C_L_pos ((Real.sqrt_lt' one_pos).mpr ?_)
  rw [one_pow]
  exact one_sub_sq_ratio_lt_one Const.M_E_EV_pos hE

theorem ve_strictMono : StrictMonoOn electron_velocity (Set.Ioi (0 : ℝ)) := by
  intro a ha b _ hab
  rw [electron_velocity_eq, electron_velocity_eq]
  exact mul_lt_mul_of_pos_left (Real.sqrt_lt_sqrt (one_sub_sq_ratio_pos Const.M_E_EV_pos ha).le
    (one_sub_sq_ratio_lt Const.M_E_EV_pos (le_of_lt ha) hab)) Const.C_L_pos

theorem escape_nonneg (ν w : ℝ) (hν : 0 ≤ ν) : 0 ≤ collisional_escape_rate ν w := by
  rw [collisional_escape_rate_eq_spec]; unfold Spec.escape
  positivity

theorem escape_const_below_clamp (ν w : ℝ) (h : w ≤ 0.1) :
    collisional_escape_rate ν w = collisional_escape_rate ν 0.1 := by
  simp [collisional_escape_rate_eq_spec, Spec.escape, max_eq_right h]

theorem escape_antitone (ν : ℝ) (hν : 0 ≤ ν) : Antitone (collisional_escape_rate ν) := by
  intro w1 w2 h12
  have h1 : (0:ℝ) < max w1 0.1 := lt_max_of_lt_right (by norm_num)
  have hm : max w1 0.1 ≤ max w2 0.1 := max_le_max_right _ h12
  rw [collisional_escape_rate_eq_spec, collisional_escape_rate_eq_spec]; unfold Spec.escape
  -- the numerator falls and the denominator grows with `max w 0.1`
  gcongr

-- non-vacuity: a positive temperature and mass number, a density above the cut-off `MINIMAL_N_3D`
example : (0:ℝ) < 40 ∧ (0:ℝ) < 12 ∧ ¬ ((1e10:ℝ) ≤ Const.MINIMAL_N_3D) := by
  refine ⟨by norm_num, by norm_num, ?_⟩; unfold Const.MINIMAL_N_3D; norm_num

end C15
