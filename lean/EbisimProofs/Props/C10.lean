import EbisimProofs.Lemmas.RateMat
import EbisimProofs.Lemmas.Fold
import Mathlib.Analysis.SpecialFunctions.Log.Base

/-! # C10 — vector, matrix and energy-scan forms agree; charge-exchange formula

`Xs.eiMat/recMat` (matrix arrangement), `Xs.eSamp/logspace/eMinRule/eMaxRule` (sampling rules of
`_eirr_e_samp`), `Xs.drSampDefault` (the default band of `drxs_energyscan`), `Xs.scanCols`, and the *generated* `Gen.cxxs`. -/
namespace C10
open Xs Num Gen RateMat Real

/-! ## matrix form = arrangement of the vector form -/

/-- **ionisation**: minus the cross section on the diagonal, the same value one row below, zeros elsewhere -/
theorem ei_mat_arrangement (l : List ℝ) (i j : Fin l.length) :
    toM l.length (eiMat l) i j =
      if i = j then -(l[(j : ℕ)]) else if (i : ℕ) = (j : ℕ) + 1 then l[(j : ℕ)] else 0 := by
  rw [(rep_eiMat rfl).toM]
  simp only [eiM, toV, List.getD_eq_getElem?_getD, List.getElem?_eq_getElem j.2, Option.getD_some]
  by_cases h : i = j
  · subst h; simp
  · simp only [h, if_false, sub_zero]

/-- **recombination**: minus the cross section on the diagonal, the same value one row above, zeros elsewhere -/
theorem rec_mat_arrangement (l : List ℝ) (i j : Fin l.length) :
    toM l.length (recMat l) i j =
      if i = j then -(l[(j : ℕ)]) else if (i : ℕ) + 1 = (j : ℕ) then l[(j : ℕ)] else 0 := by
  rw [(rep_recMat rfl).toM]
  simp only [recM, toV, List.getD_eq_getElem?_getD, List.getElem?_eq_getElem j.2, Option.getD_some]
  by_cases h : i = j
  · subst h; simp
  · simp only [h, if_false, sub_zero]

/-! ## energy scan -/

/-- **column `k` of a scan is the vector form at the `k`-th returned energy** -/
theorem scan_columns (vec : ℝ → List ℝ) (es : List ℝ) (k : ℕ) (h : k < es.length) :
    (scanCols vec es).length = es.length ∧ (scanCols vec es)[k]'(by simpa [scanCols] using h) = vec es[k] := by
  simp [scanCols]

/-- **sampling modes**: more than two (or fewer than two) entries → the caller's array; exactly two →
`n` log-spaced points; none → the default grid -/
theorem eSamp_modes (Z n : ℕ) (lo hi : ℝ) (es : List ℝ) (hes : es.length ≠ 2) :
    eSamp Z (some es) n = es ∧ eSamp Z (some [lo, hi]) n = logspace lo hi n ∧
    eSamp (α := ℝ) Z none n = logspace (eMinRule Z) (eMaxRule Z) n := by
  refine ⟨?_, rfl, rfl⟩
  match es, hes with
  | [], _ => rfl
  | [_], _ => rfl
  | [_, _], h => simp at h
  | _ :: _ :: _ :: _, _ => rfl

theorem logspace_length (lo hi : ℝ) (n : ℕ) : (logspace lo hi n).length = n := by simp [logspace, linspace]

/-- the model treats `k = 0` apart (as numpy does, to return `a` exactly in floating point); over ℝ the formula covers it -/
theorem linspace_getElem (a b : ℝ) (n k : ℕ) (h : k < (linspace a b n).length) :
    (linspace a b n)[k] = a + (b - a) * ((k : ℝ) / ((n - 1 : ℕ) : ℝ)) := by
  simp only [linspace, List.getElem_map, List.getElem_range]
  split_ifs with hk
  · simp [hk]
  · rfl

/-- over ℝ, `log10 x` is `Real.logb 10 x` by definition (the `rfl` below) -/
theorem logspace_getElem (lo hi : ℝ) (n k : ℕ) (h : k < (logspace lo hi n).length) :
    (logspace lo hi n)[k] = (10 : ℝ) ^ (logb 10 lo + (logb 10 hi - logb 10 lo) * ((k : ℝ) / ((n - 1 : ℕ) : ℝ))) := by
  simp only [logspace, List.getElem_map, linspace_getElem]
  rfl

theorem logspace_first (lo hi : ℝ) (hlo : 0 < lo) (n : ℕ) (h : 0 < (logspace lo hi n).length) : (logspace lo hi n)[0] = lo := by
  rw [logspace_getElem, Nat.cast_zero, zero_div, mul_zero, add_zero, rpow_logb (by norm_num) (by norm_num) hlo]

theorem logspace_last (lo hi : ℝ) (hhi : 0 < hi) (n : ℕ) (hn : 2 ≤ n) (h : n - 1 < (logspace lo hi n).length) :
    (logspace lo hi n)[n - 1] = hi := by
  have hn1 : ((n - 1 : ℕ) : ℝ) ≠ 0 := Nat.cast_ne_zero.2 (by omega)
  rw [logspace_getElem, div_self hn1, mul_one, add_sub_cancel, rpow_logb (by norm_num) (by norm_num) hhi]

/-- **`n` log-spaced points between the two limits**: first point `lo`, last point `hi`, strictly
increasing when `lo < hi`, equidistant in `log₁₀` -/
theorem logspace_spec (lo hi : ℝ) (hlo : 0 < lo) (hlh : lo < hi) (n : ℕ) (hn : 2 ≤ n) :
    (logspace lo hi n)[0]'(by rw [logspace_length]; omega) = lo ∧
    (logspace lo hi n)[n - 1]'(by rw [logspace_length]; omega) = hi ∧
    (∀ k (h : k + 1 < n), (logspace lo hi n)[k]'(by rw [logspace_length]; omega) < (logspace lo hi n)[k + 1]'(by rw [logspace_length]; omega)) := by
  refine ⟨logspace_first lo hi hlo n _, logspace_last lo hi (hlo.trans hlh) n hn _, fun k hk => ?_⟩
  rw [logspace_getElem, logspace_getElem]
  have hn1 : (0 : ℝ) < ((n - 1 : ℕ) : ℝ) := Nat.cast_pos.2 (by omega)
  have hd : 0 < logb 10 hi - logb 10 lo := sub_pos.2 (logb_lt_logb (by norm_num) hlo hlh)
  have hk' : (k : ℝ) / ((n - 1 : ℕ) : ℝ) < ((k + 1 : ℕ) : ℝ) / ((n - 1 : ℕ) : ℝ) :=
    div_lt_div_of_pos_right (Nat.cast_lt.2 (Nat.lt_succ_self k)) hn1
  exact rpow_lt_rpow_of_exponent_lt (by norm_num) (add_lt_add_right (mul_lt_mul_of_pos_left hk' hd) _)

/-! ## the default grid covers the element's binding energies -/

/-- the running minimum of `_eirr_e_samp`, which skips the entries whose energy is not positive; `g` is the energy of a table entry -/
theorem foldl_posMin_spec (g : ℕ → ℝ) (hg : ∀ x, 0 < x → 0 < g x) (l : List ℕ) (m0 : ℝ) (h0 : 0 < m0) :
    let em := l.foldl (fun (m : ℝ) x => if lit 0 < g x ∧ g x < m then g x else m) m0
    0 < em ∧ em ≤ m0 ∧ ∀ x ∈ l, 0 < x → em ≤ g x := by
  induction l generalizing m0 with
  | nil => exact ⟨h0, le_rfl, fun _ h => nomatch h⟩
  | cons a as ih =>
    simp only [List.foldl_cons, List.forall_mem_cons]
    by_cases hc : lit 0 < g a ∧ g a < m0
    · -- `g a` becomes the running minimum
      rw [if_pos hc]
      obtain ⟨h1, h2, h3⟩ := ih (g a) (by simpa using hc.1)
      exact ⟨h1, h2.trans hc.2.le, fun _ => h2, h3⟩
    · -- `m0` stays: if `a` counts (`0 < a`), then `g a` is positive and so not below `m0`
      rw [if_neg hc]
      obtain ⟨h1, h2, h3⟩ := ih m0 h0
      exact ⟨h1, h2, fun ha => h2.trans (not_lt.mp fun hlt => hc ⟨by simpa using hg a ha, hlt⟩), h3⟩

/-- **the default sampling grid covers every binding energy of the element**: for every tabulated
positive binding energy `P` of any element, `e_min ≤ P ≤ e_max` -/
theorem eSamp_covers (Z : ℕ) (x : ℕ) (hx : x ∈ (ebind Z).flatten) (hpos : 0 < x) :
    eMinRule (α := ℝ) Z ≤ ofScaled x scEbind ∧ (ofScaled x scEbind : ℝ) ≤ eMaxRule Z := by
  constructor
  · -- `e_min ≤ 10 ^ ⌊log₁₀ em⌋ ≤ em ≤ P`, where `em` is the smallest of 100 and the positive binding energies
    unfold eMinRule
    obtain ⟨h1, _, h3⟩ := foldl_posMin_spec (fun x => ofScaled x scEbind) (fun x => ofScaled_pos x _) (ebind Z).flatten (100.0 : ℝ) (by norm_num)
    simp only [Transc.rpow_real, Transc.log10_real, min'_real, show (10.0 : ℝ) = 10 by norm_num]
    refine le_trans (min_le_right _ _) (le_trans ?_ (h3 x hx hpos))
    exact (le_logb_iff_rpow_le (by norm_num) h1).1 (Int.floor_le _)
  · -- `P ≤ 10 P_max ≤ 10 ^ ⌈log₁₀ (10 P_max)⌉ = e_max`
    unfold eMaxRule ebMax
    have hle : (ofScaled x scEbind : ℝ) ≤ ofScaled ((ebind Z).flatten.foldl max 0) scEbind :=
      (ofScaled_le_iff _ _ _).2 (le_foldl_max (fun _ _ => rfl) _ _ x (List.mem_cons_of_mem _ hx))
    have hxp : (0 : ℝ) < ofScaled x scEbind := ofScaled_pos _ _ hpos
    simp only [Transc.rpow_real, Transc.log10_real, lit_real, Nat.cast_ofNat]
    refine le_trans ?_ ((logb_le_iff_le_rpow (by norm_num) (by linarith)).1 (Int.le_ceil _))
    linarith

/-! ## charge exchange (generated definition) -/

/-- documented Müller–Salzborn formula `1.43e-16 q^1.17 IP^-2.76` (m²) -/
noncomputable def Spec.cx (q ip : ℝ) : ℝ := 1.43e-16 * q ^ (1.17 : ℝ) * ip ^ (-2.76 : ℝ)

theorem cxxs_eq_spec (q ip : ℝ) : cxxs q ip = Spec.cx q ip := by
  simp [cxxs, Spec.cx]

/-- **zero for neutrals** -/
theorem cx_zero_neutral (ip : ℝ) : cxxs 0 ip = 0 := by
  rw [cxxs_eq_spec]; unfold Spec.cx
  rw [Real.zero_rpow (by norm_num)]; simp

/-- **strictly increasing in the charge state** (`q ≥ 0`) for a fixed partner `IP > 0` -/
theorem cx_strictMono_q (ip : ℝ) (hip : 0 < ip) : StrictMonoOn (fun q => cxxs q ip) (Set.Ici 0) := by
  intro a ha b _ hab
  simp only [cxxs_eq_spec, Spec.cx]
  have h1 : a ^ (1.17 : ℝ) < b ^ (1.17 : ℝ) := Real.rpow_lt_rpow ha hab (by norm_num)
  exact mul_lt_mul_of_pos_right (mul_lt_mul_of_pos_left h1 (by norm_num)) (Real.rpow_pos_of_pos hip _)

/-- **strictly decreasing in the partner's ionisation potential** for `q > 0` -/
theorem cx_strictAnti_ip (q : ℝ) (hq : 0 < q) : StrictAntiOn (fun ip => cxxs q ip) (Set.Ioi 0) := by
  intro a ha b _ hab
  simp only [cxxs_eq_spec, Spec.cx]
  have h1 : b ^ (-2.76 : ℝ) < a ^ (-2.76 : ℝ) := Real.rpow_lt_rpow_of_neg ha hab (by norm_num)
  exact mul_lt_mul_of_pos_left h1 (mul_pos (by norm_num) (Real.rpow_pos_of_pos hq _))

-- non-vacuity: the hypotheses of `logspace_spec` at `lo = 1`, `hi = 1000`, `n = 50`
example : (0 : ℝ) < 1 ∧ (1 : ℝ) < 1000 ∧ 2 ≤ 50 := by norm_num

/-- **the default DR sampling grid covers the resonance band**: for an element with tabulated resonances, a width `w ≥ 0` that keeps the lower
limit positive and `n ≥ 2`, the grid starts at `min(e_res) − 3w`, ends at `max(e_res) + 3w`, and every tabulated resonance energy lies between
`first + 3w` and `last − 3w` -/
theorem drSamp_covers (Z : ℕ) (w : ℝ) (n : ℕ) (hw : 0 ≤ w) (hn : 2 ≤ n) (e0 : ℝ) (rest : List ℝ)
    (hers : (dr Z).map (fun r => (ofScaled r.2.1 scEres : ℝ)) = e0 :: rest)
    (hpos : 0 < rest.foldl (fun m x => if x < m then x else m) e0 - 3 * w) :
    ∃ (h0 : 0 < (drSampDefault Z w n).length) (h1 : n - 1 < (drSampDefault Z w n).length),
      ∀ e ∈ e0 :: rest, (drSampDefault Z w n)[0] + 3 * w ≤ e ∧ e ≤ (drSampDefault Z w n)[n - 1] - 3 * w := by
  have hmin := foldl_min_le (f := fun m x => if x < m then x else m) min'_real e0 rest
  have hmax := le_foldl_max (f := fun m x => if m < x then x else m) max'_real e0 rest
  have hdef : drSampDefault Z w n = logspace (rest.foldl (fun m x => if x < m then x else m) e0 - 3 * w)
      (rest.foldl (fun m x => if m < x then x else m) e0 + 3 * w) n := by
    simp only [drSampDefault, hers, lit_real, Nat.cast_ofNat]
  have hlen : (drSampDefault Z w n).length = n := by rw [hdef, logspace_length]
  refine ⟨by omega, by omega, fun e he => ?_⟩
  have hhi : 0 < rest.foldl (fun m x => if m < x then x else m) e0 + 3 * w := by
    linarith [hmin e0 List.mem_cons_self, hmax e0 List.mem_cons_self]
  simp only [hdef]
  rw [logspace_first _ _ hpos, logspace_last _ _ hhi n hn]
  exact ⟨by linarith [hmin e he], by linarith [hmax e he]⟩

end C10
