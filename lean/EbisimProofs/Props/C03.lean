import EbisimProofs.Lemmas.AdvStage
import EbisimProofs.Lemmas.Consts

/-! # C03 — the advanced model moves particles only between neighbouring states of one species

`Adv.stage/dnAt/dkTAt/rhs` is the hand model of `_adv_rhs` (agrees with the compiled kernel to
≤ 3e-16 on every output, all option combinations incl. radial dynamics and cross-section
recomputation). The balance theorems hold for *every* potential, device, target mix and option
record; what they need from the model data — no ionisation rate out of the last state of a block, no
recombination or charge-exchange rate out of the neutral row that follows it — is taken as explicit
hypotheses on the rates. `C05.kernel_boundary` reduces those on ionisation and recombination to zeros
of the cross-section arrays the kernel uses; that the arrays `Adv.build` assembles have these zeros
(C07–C09 per element) is not derived here. -/
namespace C03
open Adv Num Finset Gen

theorem dn_interior (nq : ℕ) (lb : List ℕ) (P : PRates ℝ) (k : ℕ) (hk : k ∉ lb) :
    dnAt nq lb P k = (-P.ei k + shiftUp P.ei k) + (-P.rr k + shiftDown nq P.rr k) + (-P.dr k + shiftDown nq P.dr k)
      + (-P.cx k + shiftDown nq P.cx k) - P.ax k - P.ra k := by
  simp only [dnAt, hk, if_false, lit_real, Nat.cast_zero]; ring

/-- **neutral densities and temperatures never change** -/
theorem neutrals_frozen (nq : ℕ) (lb : List ℕ) (P : PRates ℝ) (T : TIn ℝ) (k : ℕ) (hk : k ∈ lb) :
    dnAt nq lb P k = 0 ∧ dkTAt lb T P k = 0 := by
  simp [dnAt, dkTAt, hk]

/-- **what a reaction removes from one state is added to the neighbouring state**: the term `+R_ei k`
appears in `dn (k+1)`, the terms `+R_rec (k+1)` in `dn k` -/
theorem neighbour_transfer (nq : ℕ) (P : PRates ℝ) (k : ℕ) (h : k + 1 < nq) :
    shiftUp P.ei (k + 1) = P.ei k ∧ shiftDown nq P.rr k = P.rr (k + 1) ∧
    shiftDown nq P.dr k = P.dr (k + 1) ∧ shiftDown nq P.cx k = P.cx (k + 1) :=
  ⟨shiftUp_succ _ _, shiftDown_lt h, shiftDown_lt h, shiftDown_lt h⟩

/-- **particle balance of one species** (block `[L, U)` of the joint vector, `L` its neutral row):
the ions of the block change only by ionisation of the neutral, by recombination / charge exchange
into the neutral and by the two escape rates; everything else cancels pairwise. Boundary hypotheses:
the bare nucleus is not ionised and — if another species follows — its neutral does not recombine. -/
theorem dn_balance (nq : ℕ) (lb : List ℕ) (P : PRates ℝ) (L U : ℕ) (h : L + 2 ≤ U) (hU : U ≤ nq)
    (hint : ∀ k ∈ Ico (L + 1) U, k ∉ lb)
    (hEi : P.ei (U - 1) = 0) (hRr : U < nq → P.rr U = 0) (hDr : U < nq → P.dr U = 0) (hCx : U < nq → P.cx U = 0) :
    ∑ k ∈ Ico (L + 1) U, dnAt nq lb P k
      = P.ei L - (P.rr (L + 1) + P.dr (L + 1) + P.cx (L + 1)) - ∑ k ∈ Ico (L + 1) U, (P.ax k + P.ra k) := by
  rw [sum_congr rfl fun k hk => dn_interior nq lb P k (hint k hk)]
  rw [sum_sub_distrib, sum_sub_distrib, sum_add_distrib, sum_add_distrib, sum_add_distrib]
  -- a recombination-type block leaves `if U < nq then R U else 0` at its upper end: 0 by the boundary hypothesis
  rw [block_sum_up _ _ _ (by omega), block_sum_down nq P.rr _ _ h hU, block_sum_down nq P.dr _ _ h hU,
    block_sum_down nq P.cx _ _ h hU, hEi, ite_eq_right_iff.mpr hRr, ite_eq_right_iff.mpr hDr, ite_eq_right_iff.mpr hCx,
    sum_add_distrib]
  ring

/-- **nothing is exchanged between different species**: across the border between two consecutive
blocks (`U` = upper end of one = neutral row of the next) both shift operators carry exactly the
boundary rates, which vanish -/
theorem no_cross_species (nq : ℕ) (P : PRates ℝ) (U : ℕ) (hU0 : 0 < U) (hU : U < nq)
    (hEi : P.ei (U - 1) = 0) (hRr : P.rr U = 0) (hDr : P.dr U = 0) (hCx : P.cx U = 0) :
    shiftUp P.ei U = 0 ∧ shiftDown nq P.rr (U - 1) = 0 ∧ shiftDown nq P.dr (U - 1) = 0 ∧ shiftDown nq P.cx (U - 1) = 0 := by
  obtain ⟨V, rfl⟩ : ∃ V, U = V + 1 := ⟨U - 1, by omega⟩
  rw [Nat.add_sub_cancel] at *
  exact ⟨(shiftUp_succ _ _).trans hEi, (shiftDown_lt hU).trans hRr, (shiftDown_lt hU).trans hDr,
    (shiftDown_lt hU).trans hCx⟩

theorem shiftUp_nonneg {R : ℕ → ℝ} (h : ∀ i, 0 ≤ R i) (k : ℕ) : 0 ≤ shiftUp R k :=
  ite_nonneg (by simp) (h _)

theorem shiftDown_nonneg (nq : ℕ) {R : ℕ → ℝ} (h : ∀ i, 0 ≤ R i) (k : ℕ) : 0 ≤ shiftDown nq R k :=
  ite_nonneg (h _) (by simp)

/-- **a charge state without population can only gain population**: if the state's own rates vanish
(they are proportional to its — smoothed — density) and all rates are non-negative -/
theorem empty_gains (nq : ℕ) (lb : List ℕ) (P : PRates ℝ) (k : ℕ)
    (hown : P.ei k = 0 ∧ P.rr k = 0 ∧ P.dr k = 0 ∧ P.cx k = 0 ∧ P.ax k = 0 ∧ P.ra k = 0)
    (hnn : ∀ i, 0 ≤ P.ei i ∧ 0 ≤ P.rr i ∧ 0 ≤ P.dr i ∧ 0 ≤ P.cx i) :
    0 ≤ dnAt nq lb P k := by
  by_cases hk : k ∈ lb
  · simp [dnAt, hk]
  · obtain ⟨h1, h2, h3, h4, h5, h6⟩ := hown
    rw [dn_interior nq lb P k hk, h1, h2, h3, h4, h5, h6]
    linarith [shiftUp_nonneg (fun i => (hnn i).1) k, shiftDown_nonneg nq (fun i => (hnn i).2.1) k,
      shiftDown_nonneg nq (fun i => (hnn i).2.2.1) k, shiftDown_nonneg nq (fun i => (hnn i).2.2.2) k]

/-! ## the hypotheses above hold for the rates `_adv_rhs` computes -/

theorem smooth_zero_of_lt (x : ℝ) (h : x < Const.MINIMAL_N_1D) : smooth x = 0 := by
  simp [smooth, h]

/-- the spline through `(a, 0)` with slope 0 and `(b, b)` with slope 1 stays non-negative in between:
with `t = (x - a)/(b - a)` it is `t · (b t (2 - t) + t (1 - t) a)` -/
theorem spline_nonneg (x a b : ℝ) (ha : 0 ≤ a) (hax : a < x) (hxb : x < b) : 0 ≤ cubic_spline x a b 0 b 0 1 := by
  have hd : 0 < b - a := by linarith
  have ht0 : 0 < (x - a) / (b - a) := div_pos (by linarith) hd
  have ht1 : (x - a) / (b - a) < 1 := (div_lt_one hd).mpr (by linarith)
  unfold cubic_spline
  simp only [lit_real, Nat.cast_one]
  generalize (x - a) / (b - a) = t at ht0 ht1
  have e : (1 - t) * 0 + t * b + t * (1 - t) * ((1 - t) * (0 * (b - a) - (b - 0)) + t * (-1 * (b - a) + (b - 0)))
      = t * (b * (t * (2 - t)) + t * (1 - t) * a) := by ring
  rw [e]
  have hb : 0 ≤ b := by linarith
  have h1t : 0 ≤ 1 - t := by linarith
  have h2t : 0 ≤ 2 - t := by linarith
  exact mul_nonneg ht0.le (add_nonneg (mul_nonneg hb (mul_nonneg ht0.le h2t)) (mul_nonneg (mul_nonneg ht0.le h1t) ha))

theorem smooth_nonneg (x : ℝ) (hx : 0 ≤ x) : 0 ≤ smooth x := by
  unfold smooth
  dsimp only
  split_ifs with h1 h2
  · simp
  · rw [zero_float_real, show (1.0 : ℝ) = 1 by norm_num]
    exact spline_nonneg x _ _ Const.MINIMAL_N_1D_pos.le h2.1 h2.2
  · exact hx

/-- **the only net sinks, the escape rates, are non-negative and vanish for neutrals** -/
theorem escape_nonneg (m : Model ℝ) (y : Array ℝ) (k : ℕ) :
    0 ≤ at' (stage m y).R_ax k ∧ 0 ≤ at' (stage m y).R_ra k ∧
    (k ∈ m.lb → at' (stage m y).R_ax k = 0 ∧ at' (stage m y).R_ra k = 0) := by
  rw [at'_R_ax, at'_R_ra]
  exact ⟨ite_nonneg (le_max_right _ _) le_rfl, ite_nonneg (le_max_right _ _) le_rfl,
    fun hk => ⟨if_neg fun h => h.2.1 hk, if_neg fun h => h.2.1 hk⟩⟩

/-- **an unpopulated state has no outgoing rates**: below the density cut-off the smoothed density
is exactly 0 and with it every rate that is proportional to it -/
theorem own_rates_vanish (m : Model ℝ) (y : Array ℝ) (k : ℕ) (hk : k < m.nq) (hn : at' y k < Const.MINIMAL_N_1D) :
    at' (stage m y).R_ei k = 0 ∧ at' (stage m y).R_rr k = 0 ∧ at' (stage m y).R_dr k = 0 ∧
    at' (stage m y).R_ax k = 0 ∧ at' (stage m y).R_ra k = 0 := by
  have hz : at' (stage m y).n k = 0 := by rw [at'_n, if_pos hk, smooth_zero_of_lt _ hn]
  rw [at'_R_ei, at'_R_rr, at'_R_dr, at'_R_ax, at'_R_ra, hz]
  simp only [mul_zero, zero_mul, max_self, ite_self, and_self]

/-- the derivative the model returns is `dnAt` over exactly these arrays -/
theorem rhs_dn (m : Model ℝ) (y : Array ℝ) (k : ℕ) :
    (rhs m y).dn k = dnAt m.nq m.lb (stage m y).prates k ∧ (rhs m y).dkT k = dkTAt m.lb ((stage m y).tin m) (stage m y).prates k :=
  ⟨rfl, rfl⟩

-- non-vacuity: a two-species layout (Z = 2 and Z = 1): blocks [0,3) and [3,5)
example : ∀ k ∈ Ico (0 + 1) 3, k ∉ ([0, 3] : List ℕ) := by decide

end C03
