import EbisimProofs.Props.C13
import EbisimModel.Model.Device
import Mathlib.Analysis.SpecialFunctions.Log.Base

/-! # C14 — Device derives a consistent grid, beam potential and trap parameters

`Dev.grid/argminSq/get` is the hand model of `Device.get` (field-by-field correspondence for every
subset of overrides); the two solver calls are the C13 model `Radial.bpEbeam`. -/
namespace C14
open Dev Num Gen Radial Real

/-! ## defaults and overrides (decision logic stated outright) -/

/-- **finite-difference vectors belong to the stored grid** -/
theorem fd_belongs_to_grid (I : Input ℝ) : (get I).ldu = fdNonuniform (get I).grid := rfl

/-- **current density** `I/(π r_e²)` in A/cm² unless overridden -/
theorem j_default (I : Input ℝ) (h : I.j = none) (hre : I.r_e ≠ 0) :
    (get I).j = I.current / (Const.PI * I.r_e ^ 2) * 1e-4 := by
  have hP := Const.PI_pos
  simp only [Dev.get, h, Option.getD_none, powN_real]
  field_simp

/-- **radial trap depth** is minus the minimum of the beam potential unless overridden -/
theorem vra_default (I : Input ℝ) (h : I.v_ra = none) : (get I).v_ra = -(minL (get I).phi) := by
  simp [Dev.get, h]

/-- **default energy spread**: half the characteristic potential `I/(4π ε₀ v_e)` at the space-charge
corrected energy `E + φ_min` -/
theorem fwhm_default (I : Input ℝ) (h : I.fwhm = none) :
    (get I).fwhm = 1 / 2 * (I.current / (4 * Const.PI * Const.EPS_0 * electron_velocity (I.e_kin + minL (get I).phi))) := by
  simp only [Dev.get, h, Option.getD_none, lit_real, Nat.cast_ofNat, Nat.cast_one]
  rw [div_div, div_div, mul_div_assoc]
  ring

/-- **barrier correction**: on-axis value of the potential of the same beam at the energy raised by
the barrier voltage (same grid and FD system without a barrier-tube radius; the barrier grid otherwise);
the stored barrier potential is that potential shifted by `V_ax` -/
theorem barrier_correction (I : Input ℝ) :
    let phiB := match I.r_dt_bar with
      | none => (bpEbeam (get I).grid I.current I.r_e (I.e_kin + I.v_ax) ionFree none (some (get I).ldu) 500 1e-3).phi
      | some rb => (bpEbeam (grid I.r_e rb I.n_grid) I.current I.r_e (I.e_kin + I.v_ax) ionFree none none 500 1e-3).phi
    (get I).v_ax_sc = phiB.headD 0 ∧ (get I).phiAxBarr = phiB.map (· + I.v_ax) := by
  cases h : I.r_dt_bar <;> simp [Dev.get, h]

/-- **the trap potential is the ion-free e-beam solution on the stored grid with the stored FD system** -/
theorem trap_potential (I : Input ℝ) :
    (get I).phi = (bpEbeam (get I).grid I.current I.r_e I.e_kin ionFree none (some (get I).ldu) 500 1e-3).phi := rfl

/-- **explicit overrides are stored verbatim**, for every subset of the four optional arguments,
and leave the other defaults untouched (the defaults above do not mention the overrides) -/
theorem overrides_verbatim (I : Input ℝ) :
    (∀ x, I.j = some x → (get I).j = x) ∧ (∀ x, I.fwhm = some x → (get I).fwhm = x) ∧
    (∀ x, I.v_ra = some x → (get I).v_ra = x) ∧ (∀ x, I.r_dt_bar = some x → x ≠ 0 → (get I).r_dt_bar = x) ∧
    (I.r_dt_bar = none → (get I).r_dt_bar = I.r_dt) := by
  refine ⟨fun x h => by simp [Dev.get, h], fun x h => by simp [Dev.get, h], fun x h => by simp [Dev.get, h], fun x h hx => ?_, fun h => by simp [Dev.get, h]⟩
  have : ¬ (x ≤ 0 ∧ 0 ≤ x) := fun ⟨a, b⟩ => hx (le_antisymm a b)
  simp [Dev.get, h, this]

/-! ## the radial grid -/

theorem linspace_open (a b : ℝ) (num : ℕ) :
    npLinspace a b num false = (List.range num).map fun (i : ℕ) => ((i : ℕ) : ℝ) * ((b - a) / num) + a := by
  simp [npLinspace]

/-- node `i` of `np.geomspace(a, b, m + 1)` over ℝ: `10^(log₁₀ a + i (log₁₀ b − log₁₀ a)/m)` -/
noncomputable def geo (a b : ℝ) (m i : ℕ) : ℝ :=
  (10 : ℝ) ^ (Real.log a / Real.log 10 + (i : ℝ) * ((Real.log b / Real.log 10 - Real.log a / Real.log 10) / (m : ℝ)))

theorem ten_rpow_logb {x : ℝ} (hx : 0 < x) : (10 : ℝ) ^ (Real.log x / Real.log 10) = x :=
  Real.rpow_logb (b := 10) (by norm_num) (by norm_num) hx

theorem geo_zero {a : ℝ} (b : ℝ) (m : ℕ) (ha : 0 < a) : geo a b m 0 = a := by
  simp [geo, ten_rpow_logb ha]

theorem geo_last (a : ℝ) {b : ℝ} {m : ℕ} (hb : 0 < b) (hm : 0 < m) : geo a b m m = b := by
  have : (m : ℝ) ≠ 0 := by positivity
  rw [geo, mul_div_cancel₀ _ this, add_sub_cancel, ten_rpow_logb hb]

theorem geo_succ (a b : ℝ) (m i : ℕ) :
    geo a b m (i + 1) = geo a b m i * 10 ^ ((Real.log b / Real.log 10 - Real.log a / Real.log 10) / (m : ℝ)) := by
  rw [geo, geo, ← Real.rpow_add (by norm_num)]
  congr 1
  push_cast
  ring

theorem geo_pos (a b : ℝ) (m i : ℕ) : 0 < geo a b m i := Real.rpow_pos_of_pos (by norm_num) _

theorem geo_lt_succ {a b : ℝ} {m : ℕ} (ha : 0 < a) (hab : a < b) (hm : 0 < m) (i : ℕ) :
    geo a b m i < geo a b m (i + 1) := by
  rw [geo_succ]
  refine lt_mul_of_one_lt_right (geo_pos ..) (Real.one_lt_rpow (by norm_num) (div_pos ?_ (by positivity)))
  rw [← sub_div]
  exact div_pos (sub_pos.2 (Real.log_lt_log ha hab)) (Real.log_pos (by norm_num))

theorem geo_succ_le {a b q : ℝ} {m : ℕ} (ha : 0 < a) (hb : 0 < b) (hq : 0 < q) (hm : 0 < m) (h : b ≤ a * q ^ m) (i : ℕ) :
    geo a b m (i + 1) ≤ q * geo a b m i := by
  rw [geo_succ, mul_comm]
  refine mul_le_mul_of_nonneg_right ?_ (geo_pos ..).le
  have hl10 : 0 < Real.log 10 := Real.log_pos (by norm_num)
  have hmR : (0 : ℝ) < m := by positivity
  calc (10 : ℝ) ^ ((Real.log b / Real.log 10 - Real.log a / Real.log 10) / (m : ℝ))
      ≤ 10 ^ (Real.log q / Real.log 10) := by
        refine Real.rpow_le_rpow_of_exponent_le (by norm_num) ?_
        rw [div_le_iff₀ hmR, ← sub_div, div_mul_eq_mul_div, div_le_div_iff_of_pos_right hl10]
        have := Real.log_le_log hb h
        rw [Real.log_mul ha.ne' (pow_pos hq m).ne', Real.log_pow] at this
        linarith
    _ = q := ten_rpow_logb hq

/-- over ℝ the two ends `np.geomspace` pins are the values of the same formula -/
theorem geomspace_closed (a b : ℝ) (num : ℕ) (ha : 0 < a) (hb : 0 < b) (hn : 2 ≤ num) :
    npGeomspace a b num = (List.range num).map (geo a b (num - 1)) := by
  apply List.ext_getElem
  · simp [npGeomspace, npLinspace]
  · intro i h1 h2
    simp only [npGeomspace, npLinspace, List.getElem_mapIdx, List.getElem_map, List.getElem_range, Transc.log10_real, Transc.rpow_real,
      if_true, true_and]
    -- first node, last node (both pinned by the code), interior node
    split_ifs with h0 hl
    · rw [h0, geo_zero b _ ha]
    · rw [hl.2, geo_last a hb (by omega)]
    · have e10 : ((10.0 : ℝ)) = 10 := by norm_num
      rw [e10, geo]
      congr 1
      ring

/-- closed form of the radial grid over ℝ: uniform on `[0, r_e)`, uniform on `[r_e, 2 r_e)`, geometric on
`[2 r_e, r_dt]` -/
theorem grid_closed_form (r_e r_dt : ℝ) (n_grid : ℕ) (hre : 0 < r_e) (hrd : 2 * r_e < r_dt) (hn : 6 ≤ n_grid) :
    grid r_e r_dt n_grid =
      (List.range (n_grid / 6)).map (fun (i : ℕ) => ((i : ℕ) : ℝ) * ((r_e - 0) / ((n_grid / 6 : ℕ) : ℝ)) + 0)
      ++ (List.range (n_grid / 6)).map (fun (i : ℕ) => ((i : ℕ) : ℝ) * ((2 * r_e - r_e) / ((n_grid / 6 : ℕ) : ℝ)) + r_e)
      ++ (List.range (n_grid / 6 * 4)).map (fun (i : ℕ) => (10 : ℝ) ^ (Real.log (2 * r_e) / Real.log 10 + ((i : ℕ) : ℝ) *
          ((Real.log r_dt / Real.log 10 - Real.log (2 * r_e) / Real.log 10) / ((n_grid / 6 * 4 - 1 : ℕ) : ℝ)))) := by
  have h2 : 0 < 2 * r_e := by linarith
  have hrd0 : 0 < r_dt := by linarith
  unfold grid
  simp only [lit_real, Nat.cast_zero, Nat.cast_ofNat]
  rw [linspace_open, linspace_open, geomspace_closed _ _ _ h2 hrd0 (by omega)]
  rfl

/-- node `i` of the device grid over ℝ: the two `linspace` pieces are one uniform grid of `2k` nodes of step `r_e/k`;
then the `4k` geometric nodes from `2 r_e` to `r_dt` -/
noncomputable def node (r_e r_dt : ℝ) (k i : ℕ) : ℝ :=
  if i < 2 * k then (i : ℝ) * (r_e / k) else geo (2 * r_e) r_dt (k * 4 - 1) (i - 2 * k)

theorem grid_eq_map (r_e r_dt : ℝ) (n_grid : ℕ) (hre : 0 < r_e) (hrd : 2 * r_e < r_dt) (hn : 6 ≤ n_grid) :
    grid r_e r_dt n_grid = (List.range (6 * (n_grid / 6))).map (node r_e r_dt (n_grid / 6)) := by
  have hk : (((n_grid / 6 : ℕ)) : ℝ) ≠ 0 := by
    have : 0 < n_grid / 6 := by omega
    positivity
  rw [grid_closed_form r_e r_dt n_grid hre hrd hn, show 6 * (n_grid / 6) = n_grid / 6 + n_grid / 6 + n_grid / 6 * 4 by omega,
    List.range_add, List.range_add, List.map_append, List.map_append, List.map_map, List.map_map]
  refine congrArg₂ _ (congrArg₂ _ ?_ ?_) ?_
  · refine List.map_congr_left fun i hi => ?_
    rw [List.mem_range] at hi
    simp only [node, if_pos (show i < 2 * (n_grid / 6) by omega)]
    ring
  · refine List.map_congr_left fun i hi => ?_
    rw [List.mem_range] at hi
    simp only [node, Function.comp, if_pos (show n_grid / 6 + i < 2 * (n_grid / 6) by omega)]
    push_cast
    field_simp
    ring
  · refine List.map_congr_left fun i hi => ?_
    simp only [node, Function.comp, if_neg (show ¬ n_grid / 6 + n_grid / 6 + i < 2 * (n_grid / 6) by omega),
      show n_grid / 6 + n_grid / 6 + i - 2 * (n_grid / 6) = i by omega, geo]

section node
variable {r_e r_dt : ℝ} {k : ℕ} (hre : 0 < r_e) (hrd : 2 * r_e < r_dt) (hk : 0 < k)
include hre hk

/-- the uniform formula also gives the first geometric node `2 r_e`, so that a pair of neighbours `i, i + 1` always lies in one
piece: `i + 1 ≤ 2k` or `2k ≤ i` -/
theorem node_of_le {i : ℕ} (hi : i ≤ 2 * k) : node r_e r_dt k i = (i : ℝ) * (r_e / k) := by
  rcases hi.lt_or_eq with h | rfl
  · rw [node, if_pos h]
  · have : (k : ℝ) ≠ 0 := by positivity
    rw [node, if_neg (lt_irrefl _), Nat.sub_self, geo_zero _ _ (by linarith)]
    push_cast
    field_simp

omit hre hk in
theorem node_of_ge {i : ℕ} (hi : 2 * k ≤ i) : node r_e r_dt k i = geo (2 * r_e) r_dt (k * 4 - 1) (i - 2 * k) := by
  rw [node, if_neg (by omega)]

omit hre in
theorem node_zero : node r_e r_dt k 0 = 0 := by simp [node, hk]

theorem node_k : node r_e r_dt k k = r_e := by
  have : (k : ℝ) ≠ 0 := by positivity
  rw [node_of_le hre hk (by omega)]
  field_simp

include hrd in
theorem node_last : node r_e r_dt k (6 * k - 1) = r_dt := by
  rw [node_of_ge (by omega), show 6 * k - 1 - 2 * k = k * 4 - 1 by omega]
  exact geo_last _ (by linarith) (by omega)

include hrd in
theorem node_lt_succ (i : ℕ) : node r_e r_dt k i < node r_e r_dt k (i + 1) := by
  have hs : 0 < r_e / k := by positivity
  rcases Nat.lt_or_ge i (2 * k) with h | h
  · rw [node_of_le hre hk h.le, node_of_le hre hk h]
    push_cast
    linarith
  · rw [node_of_ge h, node_of_ge (by omega), show i + 1 - 2 * k = i - 2 * k + 1 by omega]
    exact geo_lt_succ (by linarith) hrd (by omega) _

include hrd in
theorem node_pairwise (n : ℕ) : ((List.range n).map (node r_e r_dt k)).Pairwise (· < ·) :=
  List.pairwise_lt_range.map _ fun _ _ => (strictMono_nat_of_lt_succ (node_lt_succ hre hrd hk)).imp

end node

/-- **the radial grid starts on the axis, is strictly increasing, ends at the drift-tube radius, has
`6·(n_grid // 6)` nodes, and node `n_grid // 6` is exactly the beam radius** -/
theorem grid_spec (r_e r_dt : ℝ) (n_grid : ℕ) (hre : 0 < r_e) (hrd : 2 * r_e < r_dt) (hn : 6 ≤ n_grid) :
    let g := grid r_e r_dt n_grid
    let k := n_grid / 6
    g.length = 6 * k ∧ g.Pairwise (· < ·) ∧ g[0]? = some 0 ∧ g[k]? = some r_e ∧ g[6 * k - 1]? = some r_dt := by
  intro g k
  have hk : 0 < k := by
    show 0 < n_grid / 6
    omega
  have hg : g = (List.range (6 * k)).map (node r_e r_dt k) := grid_eq_map r_e r_dt n_grid hre hrd hn
  rw [hg]
  refine ⟨by simp, node_pairwise hre hrd hk _, ?_, ?_, ?_⟩
  · rw [List.getElem?_map, List.getElem?_range (by omega), Option.map_some, node_zero hk]
  · rw [List.getElem?_map, List.getElem?_range (by omega), Option.map_some, node_k hre hk]
  · rw [List.getElem?_map, List.getElem?_range (by omega), Option.map_some, node_last hre hrd hk]

/-! ## the beam-edge index -/

/-- `argminSq` never moves once the running minimum is 0 -/
theorem argmin_go_zero (r : ℝ) : ∀ (xs : List ℝ) (i best : ℕ), argminSq.go r xs i best 0 = best
  | [], _, _ => rfl
  | x :: xs, i, best => by
    have : ¬ (Num.powN (x - r) 2 < (0 : ℝ)) := by rw [powN_real]; exact not_lt.mpr (sq_nonneg _)
    simp only [argminSq.go, this, if_false]
    exact argmin_go_zero r xs (i + 1) best

theorem argmin_go_hit (r : ℝ) (post : List ℝ) : ∀ (pre : List ℝ) (i best : ℕ) (bv : ℝ), 0 < bv → (∀ x ∈ pre, x ≠ r) →
    argminSq.go r (pre ++ r :: post) i best bv = i + pre.length
  | [], i, best, bv, hbv, _ => by
    have h0 : Num.powN (r - r) 2 = (0 : ℝ) := by simp [powN_real]
    simp only [List.nil_append, argminSq.go, h0, hbv, if_true, List.length_nil, Nat.add_zero]
    exact argmin_go_zero r post (i + 1) i
  | x :: pre, i, best, bv, hbv, hne => by
    have hx : x - r ≠ 0 := sub_ne_zero.mpr (hne x (by simp))
    have hv : 0 < Num.powN (x - r) 2 := by rw [powN_real]; positivity
    have hpre : ∀ y ∈ pre, y ≠ r := fun y hy => hne y (by simp [hy])
    simp only [List.cons_append, argminSq.go, List.length_cons]
    split_ifs
    · rw [argmin_go_hit r post pre (i + 1) i _ hv hpre]
      omega
    · rw [argmin_go_hit r post pre (i + 1) best bv hbv hpre]
      omega

theorem argminSq_hit (r : ℝ) (pre post : List ℝ) (hne : ∀ x ∈ pre, x ≠ r) : argminSq (pre ++ r :: post) r = pre.length := by
  -- `argminSq` starts its walk at the second node with the first as the running minimum: the same as starting at the first
  -- node with any larger running value
  have hgo : ∀ (x : ℝ) (xs : List ℝ), argminSq (x :: xs) r = argminSq.go r (x :: xs) 0 0 (Num.powN (x - r) 2 + 1) := by
    simp [argminSq, argminSq.go]
  obtain ⟨x, xs, e⟩ : ∃ x xs, pre ++ r :: post = x :: xs := by cases pre <;> simp
  rw [e, hgo, ← e, argmin_go_hit r post pre 0 0 _ (by rw [powN_real]; positivity) hne, Nat.zero_add]

theorem argminSq_of_sorted {g : List ℝ} {k : ℕ} {r : ℝ} (hpw : g.Pairwise (· < ·)) (hk : g[k]? = some r) :
    argminSq g r = k := by
  obtain ⟨hkl, e⟩ := List.getElem?_eq_some_iff.mp hk
  have hsplit : g = g.take k ++ r :: g.drop (k + 1) := by
    rw [← e, ← List.drop_eq_getElem_cons hkl, List.take_append_drop]
  rw [hsplit, argminSq_hit r _ _ ?_, List.length_take, min_eq_left hkl.le]
  intro x hx
  obtain ⟨i, hi, rfl⟩ := List.mem_take_iff_getElem.mp hx
  exact (e ▸ List.pairwise_iff_getElem.mp hpw i k (by omega) hkl (by omega)).ne

/-- **the beam-edge index points at the node that equals the beam radius**: `rad_re_idx = n_grid // 6`
and `rad_grid[rad_re_idx] = r_e` -/
theorem beam_edge_index (I : Input ℝ) (hre : 0 < I.r_e) (hrd : 2 * I.r_e < I.r_dt) (hn : 6 ≤ I.n_grid) :
    (get I).reIdx = I.n_grid / 6 ∧ (get I).grid[(get I).reIdx]? = some I.r_e := by
  obtain ⟨_, hpw, _, hk, _⟩ := grid_spec I.r_e I.r_dt I.n_grid hre hrd hn
  have hidx : (get I).reIdx = I.n_grid / 6 := argminSq_of_sorted hpw hk
  exact ⟨hidx, hidx ▸ hk⟩

-- non-vacuity: the hypotheses of `grid_spec` / `beam_edge_index` hold for an ordinary device (r_e = 100 µm, r_dt = 5 mm, 400 nodes)
example : (0 : ℝ) < 1e-4 ∧ 2 * (1e-4 : ℝ) < 5e-3 ∧ 6 ≤ 400 := by norm_num

-- … and its default current density (`j_default`: 0.2 A through that beam) is positive
example : (0.2 : ℝ) / (Const.PI * (1e-4 : ℝ) ^ 2) * 1e-4 > 0 := by
  have := Const.PI_pos; positivity

/-! ## the trap potential is a well (maximum principle) -/

/-- the Boltzmann–Poisson problem `Device.get` hands to the e-beam solver for the trap potential -/
noncomputable def deviceBP (I : Input ℝ) : BPIn ℝ :=
  { variant := .ebeam, r := (get I).grid, ldu := (get I).ldu, b0 := [],
    cden := beamDensity (get I).grid I.current I.r_e, e_kin := I.e_kin, sp := ionFree }

theorem ionFree_nl (I : Input ℝ) : ∀ s ∈ (deviceBP I).sp, s.nl = 0 := by
  simp [deviceBP, ionFree]

theorem trap_potential_is_loop (I : Input ℝ) :
    (get I).phi = (finish (loop (deviceBP I) 1e-3 500
      (firstGuessEbeam (get I).grid I.current I.r_e I.e_kin ionFree) 0 none)).phi := rfl

/-- **the beam potential never decreases outward and is nowhere positive** — for the exact solution
of the discretised ion-free problem the iteration converges to (`trap_potential_well_partial`: the
stored potential is the last Newton iterate, whose distance to the fixed point is what the stopping
test bounds; zero at the wall holds for every iterate, C13 `loop_wall_zero`). Grid hypothesis
`GridMP`: strictly increasing with `r[i+1] ≤ 3 r[i]` (`gridMP_of_indexed`). -/
theorem trap_potential_well_partial (I : Input ℝ) (phi : List ℝ) (hg : GridMP (get I).grid)
    (hcur : 0 ≤ I.current) (hphi : phi.length = (get I).grid.length)
    (hfix : mulL 0 (get I).ldu phi = (step (deviceBP I) phi).b) (hw : phi.getLast? = some 0) :
    List.Pairwise (· ≤ ·) phi ∧ ∀ v ∈ phi, v ≤ 0 :=
  C13.beam_potential_monotone (deviceBP I) phi rfl (ionFree_nl I) hg rfl hphi (beamDensity_length ..)
    (beamDensity_nonpos _ _ _ hcur) hfix hw

/-- consequently the radial trap depth `−min φ` is the depth on the axis -/
theorem trap_depth_on_axis_partial (I : Input ℝ) (phi : List ℝ) (hg : GridMP (get I).grid)
    (hcur : 0 ≤ I.current) (hphi : phi.length = (get I).grid.length)
    (hfix : mulL 0 (get I).ldu phi = (step (deviceBP I) phi).b) (hw : phi.getLast? = some 0) :
    ∀ x0 ∈ phi.head?, ∀ v ∈ phi, x0 ≤ v :=
  head_le_of_pairwise (trap_potential_well_partial I phi hg hcur hphi hfix hw).1

/-- **the trap potential lies between the potentials of the same beam at the nominal and at the
space-charge-reduced electron velocity** (discrete form, exact solution of the ion-free problem on any
admissible device grid): `φ_lo ≤ φ ≤ φ_hi`, where `φ_lo` / `φ_hi` are the finite-difference Poisson
potentials of the uniform beam with the electron velocity frozen at `E + p_min` / at `E`; the analytic
uniform-beam potentials of the property are their continuum limits -/
theorem trap_potential_between_partial (I : Input ℝ) (phi philo phihi : List ℝ) (pm : ℝ)
    (hg : GridMP (get I).grid) (hcur : 0 ≤ I.current)
    (hphi : phi.length = (get I).grid.length) (hlo_len : philo.length = (get I).grid.length)
    (hhi_len : phihi.length = (get I).grid.length)
    (hfix : mulL 0 (get I).ldu phi = (step (deviceBP I) phi).b)
    (hw : phi.getLast? = some 0) (hwlo : philo.getLast? = some 0) (hwhi : phihi.getLast? = some 0)
    (hpm : ∀ p ∈ phi, pm ≤ p) (hpos : 0 < I.e_kin + pm)
    (hlo : mulL 0 (get I).ldu philo = (beamDensity (get I).grid I.current I.r_e).map fun c =>
      -c / Real.sqrt (2 * Const.Q_E * (I.e_kin + pm) / Const.M_E) / Const.EPS_0)
    (hhi : mulL 0 (get I).ldu phihi = (beamDensity (get I).grid I.current I.r_e).map fun c =>
      -c / Real.sqrt (2 * Const.Q_E * I.e_kin / Const.M_E) / Const.EPS_0) :
    (∀ p ∈ List.zip philo phi, p.1 ≤ p.2) ∧ (∀ p ∈ List.zip phi phihi, p.1 ≤ p.2) :=
  C13.beam_potential_between (deviceBP I) phi philo phihi pm rfl (ionFree_nl I) hg rfl hphi hlo_len hhi_len
    (beamDensity_length ..) (beamDensity_nonpos _ _ _ hcur) hfix hw hwlo hwhi hpm hpos hlo hhi

/-! ## every device grid is admissible -/

theorem node_succ_le {r_e r_dt : ℝ} {k : ℕ} (hre : 0 < r_e) (hrd : 2 * r_e < r_dt) (hk : 0 < k)
    (hmax : r_dt ≤ 2 * r_e * 3 ^ (k * 4 - 1)) (i : ℕ) (hi : 1 ≤ i) :
    node r_e r_dt k (i + 1) ≤ 3 * node r_e r_dt k i := by
  rcases Nat.lt_or_ge i (2 * k) with h | h
  · rw [node_of_le hre hk h.le, node_of_le hre hk h]
    push_cast
    exact succ_mul_le_three (by exact_mod_cast hi) (by positivity)
  · rw [node_of_ge h, node_of_ge (by omega), show i + 1 - 2 * k = i - 2 * k + 1 by omega]
    exact geo_succ_le (by linarith) (by linarith) (by norm_num) (by omega) hmax _

/-- `device_grid_admissible` for every `n_grid` for which the grid has nodes at all: `6 ≤ n_grid` makes `n_grid // 6 ≥ 1` -/
theorem gridMP_grid (r_e r_dt : ℝ) (n_grid : ℕ) (hre : 0 < r_e) (hrd : 2 * r_e < r_dt)
    (hn : 6 ≤ n_grid) (hmax : r_dt ≤ 2 * r_e * 3 ^ (4 * (n_grid / 6) - 1)) :
    GridMP (grid r_e r_dt n_grid) := by
  have hk : 0 < n_grid / 6 := by omega
  rw [mul_comm 4] at hmax
  rw [grid_eq_map r_e r_dt n_grid hre hrd hn]
  refine gridMP_of_indexed _ (by simp; omega) (node_pairwise hre hrd hk _) (by simp [node_zero hk]) fun i hi h => ?_
  simpa using node_succ_le hre hrd hk hmax i hi

/-- **every device grid is admissible for the maximum principle**: for `n_grid ≥ 12` and a tube radius
below `2 r_e · 3^(4k−1)` (`k = n_grid // 6`; for `n_grid ≥ 60` this is `r_dt < 10¹⁸ r_e`) consecutive
nodes satisfy `r[i+1] ≤ 3 r[i]` from the second node on -/
theorem device_grid_admissible (r_e r_dt : ℝ) (n_grid : ℕ) (hre : 0 < r_e) (hrd : 2 * r_e < r_dt)
    (hn : 12 ≤ n_grid) (hmax : r_dt ≤ 2 * r_e * 3 ^ (4 * (n_grid / 6) - 1)) :
    GridMP (grid r_e r_dt n_grid) :=
  gridMP_grid r_e r_dt n_grid hre hrd (by omega) hmax

/-- **the device's trap potential well, for every device grid** (exact solution of the discretised
ion-free problem) -/
theorem trap_potential_well_device_partial (I : Input ℝ) (phi : List ℝ)
    (hre : 0 < I.r_e) (hrd : 2 * I.r_e < I.r_dt) (hn : 12 ≤ I.n_grid)
    (hmax : I.r_dt ≤ 2 * I.r_e * 3 ^ (4 * (I.n_grid / 6) - 1))
    (hcur : 0 ≤ I.current) (hphi : phi.length = (get I).grid.length)
    (hfix : mulL 0 (get I).ldu phi = (step (deviceBP I) phi).b) (hw : phi.getLast? = some 0) :
    List.Pairwise (· ≤ ·) phi ∧ ∀ v ∈ phi, v ≤ 0 :=
  trap_potential_well_partial I phi (device_grid_admissible I.r_e I.r_dt I.n_grid hre hrd hn hmax) hcur hphi hfix hw

-- non-vacuity: r_e = 100 µm, r_dt = 5 mm, 400 nodes
example : (0 : ℝ) < 1e-4 ∧ 2 * (1e-4 : ℝ) < 5e-3 ∧ 12 ≤ 400 ∧ (5e-3 : ℝ) ≤ 2 * 1e-4 * 3 ^ (4 * (400 / 6) - 1) := by
  refine ⟨by norm_num, by norm_num, by norm_num, ?_⟩
  have h27 : (3 : ℝ) ^ 3 ≤ 3 ^ (4 * (400 / 6) - 1) := pow_le_pow_right₀ (by norm_num) (by norm_num)
  have e27 : (3 : ℝ) ^ 3 = 27 := by norm_num
  rw [e27] at h27
  have h5 : (5e-3 : ℝ) = 2 * 1e-4 * 25 := by norm_num
  rw [h5]
  apply mul_le_mul_of_nonneg_left _ (by norm_num)
  exact le_trans (by norm_num : (25 : ℝ) ≤ 27) h27

/-! ## the stored potential itself (last Newton iterate) -/

/-- the stored trap potential is the output of one Newton update `step` of the device's e-beam problem -/
theorem trap_potential_is_step (I : Input ℝ) :
    ∃ phiPrev, (get I).phi = (step (deviceBP I) phiPrev).phi := by
  obtain ⟨pp, -, e1, -, -⟩ := loop_exit (deviceBP I) 1e-3 (fun _ => True) (fun _ _ => trivial) 499
    (firstGuessEbeam (get I).grid I.current I.r_e I.e_kin ionFree) 0 none trivial
  exact ⟨pp, by rw [trap_potential_is_loop, finish_phi, e1]⟩

/-- what the two `trap_potential_returned_*` theorems need of a device grid: it is admissible, the beam ends inside the
tube, and the Newton iterate vanishes at the wall -/
theorem device_step_premises (I : Input ℝ) (phiPrev : List ℝ)
    (hre : 0 < I.r_e) (hrd : 2 * I.r_e < I.r_dt) (hn : 12 ≤ I.n_grid)
    (hmax : I.r_dt ≤ 2 * I.r_e * 3 ^ (4 * (I.n_grid / 6) - 1)) (hlen : phiPrev.length = (get I).grid.length) :
    GridMP (get I).grid ∧ (beamDensity (get I).grid I.current I.r_e).length = (get I).grid.length ∧
      (beamDensity (get I).grid I.current I.r_e).getLast? = some 0 ∧ (step (deviceBP I) phiPrev).phi.getLast? = some 0 := by
  have hg : GridMP (get I).grid := device_grid_admissible I.r_e I.r_dt I.n_grid hre hrd hn hmax
  obtain ⟨hglen, _, _, _, hlastg⟩ := grid_spec I.r_e I.r_dt I.n_grid hre hrd (by omega)
  have hgl : (grid I.r_e I.r_dt I.n_grid).getLast? = some I.r_dt := by
    rw [List.getLast?_eq_getElem?, hglen]
    exact hlastg
  obtain ⟨hcl, hcz⟩ := C13.beam_density_premise (get I).grid I.current I.r_e I.r_dt hgl (by linarith)
  have h2 := hg.two_le
  have hldul : (get I).ldu.length = (get I).grid.length := fdNonuniform_length _ h2
  exact ⟨hg, hcl, hcz, C13.step_wall_zero (deviceBP I) phiPrev 0 (by omega) (by simp [deviceBP, hlen]) (by simp [deviceBP, hlen, hldul])
    (fdNonuniform_getLast? _ h2) (fun h => absurd rfl h) (fun _ => ⟨by simp [deviceBP, hcl, hlen], hcz⟩)⟩

/-- **the stored trap potential itself never decreases outward and is nowhere positive** — for the potential `Device.get` stores (the last
Newton iterate `step φ_prev`, `trap_potential_is_step`), on every device grid, provided the last Newton system has non-vanishing
pivots, the electron energy `E + φ_prev` is positive at every node and the last correction satisfies `y ≥ −2(E + φ_prev)` (implied by the
stopping test below the virtual-cathode limit). Zero at the wall: C13 `loop_wall_zero`; minimum on the axis follows. -/
theorem trap_potential_returned_well (I : Input ℝ) (phiPrev : List ℝ)
    (hre : 0 < I.r_e) (hrd : 2 * I.r_e < I.r_dt) (hn : 12 ≤ I.n_grid)
    (hmax : I.r_dt ≤ 2 * I.r_e * 3 ^ (4 * (I.n_grid / 6) - 1)) (hcur : 0 ≤ I.current)
    (hstep : (get I).phi = (step (deviceBP I) phiPrev).phi) (hlen : phiPrev.length = (get I).grid.length)
    (hp : PivotsOk 0 (newtonRows (deviceBP I).ldu (step (deviceBP I) phiPrev).jd
      (targetFun none (deviceBP I).ldu phiPrev (step (deviceBP I) phiPrev).b)))
    (hpos : ∀ p ∈ phiPrev, 0 < I.e_kin + p)
    (hy : ∀ i (h1 : i < phiPrev.length) (h2 : i < (step (deviceBP I) phiPrev).y.length),
      -(2 * (I.e_kin + phiPrev[i])) ≤ ((step (deviceBP I) phiPrev).y)[i]) :
    List.Pairwise (· ≤ ·) (get I).phi ∧ ∀ v ∈ (get I).phi, v ≤ 0 := by
  obtain ⟨hg, hcl, hcz, hw⟩ := device_step_premises I phiPrev hre hrd hn hmax hlen
  rw [hstep]
  exact C13.ionfree_iterate_well (deviceBP I) phiPrev rfl (ionFree_nl I) hg rfl hlen hcl hcz (beamDensity_nonpos _ _ _ hcur)
    hp hpos hy hw

/-- **the stored trap potential lies between two frozen-velocity Poisson potentials of the same beam** — the iterate-level form of the property's
"between the analytic uniform-beam potentials for the nominal and the space-charge-reduced electron velocity", for the potential `Device.get`
stores (`(get I).phi = step φ_prev`): with the previous iterate in `[p_min, 0]`, `E + p_min > 0` and a last correction `|y| ≤ 2δ(E + φ_prev)`
(`δ ≈ 10⁻³` from the stopping test), `φ_lo ≤ (get I).phi ≤ φ_hi`, `φ_lo` / `φ_hi` being the finite-difference Poisson potentials on the device
mesh of the uniform beam at the velocity of `E + p_min` with the charge scaled by `1 + δ`, and at the velocity of `E` with the charge scaled by
`1 − δ` (their continuum limits are the analytic potentials, C12) -/
theorem trap_potential_returned_between (I : Input ℝ) (phiPrev philo phihi : List ℝ) (pm δ : ℝ)
    (hre : 0 < I.r_e) (hrd : 2 * I.r_e < I.r_dt) (hn : 12 ≤ I.n_grid)
    (hmax : I.r_dt ≤ 2 * I.r_e * 3 ^ (4 * (I.n_grid / 6) - 1)) (hcur : 0 ≤ I.current)
    (hstep : (get I).phi = (step (deviceBP I) phiPrev).phi) (hlen : phiPrev.length = (get I).grid.length)
    (hlo_len : philo.length = (get I).grid.length) (hhi_len : phihi.length = (get I).grid.length)
    (hp : PivotsOk 0 (newtonRows (deviceBP I).ldu (step (deviceBP I) phiPrev).jd
      (targetFun none (deviceBP I).ldu phiPrev (step (deviceBP I) phiPrev).b)))
    (hpm : ∀ p ∈ phiPrev, pm ≤ p) (hp0 : ∀ p ∈ phiPrev, p ≤ 0) (hpos : 0 < I.e_kin + pm) (hδ0 : 0 ≤ δ) (hδ1 : δ < 1)
    (hy : ∀ i (h1 : i < phiPrev.length) (h2 : i < (step (deviceBP I) phiPrev).y.length),
      |((step (deviceBP I) phiPrev).y)[i]| ≤ 2 * δ * (I.e_kin + phiPrev[i]))
    (hwlo : philo.getLast? = some 0) (hwhi : phihi.getLast? = some 0)
    (hlo : mulL 0 (get I).ldu philo = (beamDensity (get I).grid I.current I.r_e).map fun c =>
      (1 + δ) * (-c / Real.sqrt (2 * Const.Q_E * (I.e_kin + pm) / Const.M_E) / Const.EPS_0))
    (hhi : mulL 0 (get I).ldu phihi = (beamDensity (get I).grid I.current I.r_e).map fun c =>
      (1 - δ) * (-c / Real.sqrt (2 * Const.Q_E * I.e_kin / Const.M_E) / Const.EPS_0)) :
    (∀ p ∈ List.zip philo (get I).phi, p.1 ≤ p.2) ∧ (∀ p ∈ List.zip (get I).phi phihi, p.1 ≤ p.2) := by
  obtain ⟨hg, hcl, hcz, hw⟩ := device_step_premises I phiPrev hre hrd hn hmax hlen
  rw [hstep]
  exact C13.ionfree_iterate_between (deviceBP I) phiPrev philo phihi pm δ rfl (ionFree_nl I) hg rfl hlen hlo_len hhi_len hcl hcz
    (beamDensity_nonpos _ _ _ hcur) hp hpm hp0 hpos hδ0 hδ1 hy hw hwlo hwhi hlo hhi

end C14
