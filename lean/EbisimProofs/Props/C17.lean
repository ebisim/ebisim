import EbisimProofs.RealInst
import EbisimModel.Model.Book

/-! # C17 — an energy scan equals independent simulations, ordered and addressable by energy

`Scan.run/getResult/abundanceAtTime/abundanceOfCs` is the hand model of `energy_scan` and
`EnergyScanResult`; the simulation function, the argument preparation and the per-result
interpolation are parameters (any function). -/
namespace C17
open Scan Num

/-- **the scanned energies are the requested ones in ascending order** (a permutation: duplicates are
kept), for any transitive, total comparison -/
theorem energies_sorted_perm {κ ε ρ : Type} (le : ε → ε → Bool) (prep : κ → κ) (sim : κ → ε → ρ) (kw : κ) (energies : List ε)
    (trans : ∀ a b c, le a b → le b c → le a c) (total : ∀ a b, le a b || le b a) :
    (run le prep sim kw energies).1.Pairwise (fun a b => le a b) ∧ (run le prep sim kw energies).1.Perm energies :=
  ⟨List.pairwise_mergeSort trans total energies, List.mergeSort_perm energies le⟩

/-- **result `i` is the direct call of the simulation function with energy `i` and the prepared
arguments**, which differ from the caller's only by what `prep` does (the caller's own arguments
`kw` are not touched: `run` builds new values) -/
theorem results_pointwise {κ ε ρ : Type} (le : ε → ε → Bool) (prep : κ → κ) (sim : κ → ε → ρ) (kw : κ) (energies : List ε) :
    let r := run le prep sim kw energies
    r.2.length = r.1.length ∧ r.1.length = energies.length ∧
    ∀ i (h : i < r.1.length) (h' : i < r.2.length), r.2[i] = sim (prep kw) r.1[i] := by
  simp [run]

/-- `list.index` is the same recursion as the auxiliary function of core's `List.findIdx?` -/
theorem indexOf?_eq_go {ε : Type} (eq : ε → ε → Bool) (e : ε) (l : List ε) (i0 : ℕ) :
    indexOf? eq e l i0 = List.findIdx?.go (eq · e) l i0 := by
  induction l generalizing i0 with
  | nil => rfl
  | cons x xs ih => simp only [indexOf?, List.findIdx?.go, ih]

theorem getResult_eq {ε ρ : Type} (eq : ε → ε → Bool) (es : List ε) (rs : List ρ) (e : ε) :
    getResult eq es rs e = (es.findIdx? (eq · e)).bind fun i => rs[i]? := by
  rw [getResult, indexOf?_eq_go, List.findIdx?]

/-- **lookup of a single energy**: a simulated energy returns the result at its first position, any
other value raises (`none`) -/
theorem getResult_spec {ε ρ : Type} (eq : ε → ε → Bool) (es : List ε) (rs : List ρ) (hl : rs.length = es.length) (e : ε) :
    (∀ r, getResult eq es rs e = some r → ∃ (i : ℕ) (h : i < es.length), eq es[i] e = true ∧
        (∀ k (hk : k < i), eq (es[k]'(by omega)) e = false) ∧ r = rs[i]'(by omega)) ∧
    (getResult eq es rs e = none ↔ ∀ x ∈ es, eq x e = false) := by
  rw [getResult_eq]
  cases hi : es.findIdx? (eq · e) with
  | none => exact ⟨fun r hr => (by cases hr), iff_of_true rfl (List.findIdx?_eq_none_iff.1 hi)⟩
  | some i =>
    -- a found index is in range, so `rs[i]?` is `some rs[i]`
    obtain ⟨h, hp, hb⟩ := List.findIdx?_eq_some_iff_getElem.1 hi
    rw [Option.bind_some, List.getElem?_eq_getElem (by omega)]
    constructor
    · intro r hr
      exact ⟨i, h, hp, fun k hk => by simpa using hb k hk, (Option.some.inj hr).symm⟩
    · refine iff_of_false (by simp) fun hall => ?_
      rw [hall _ (List.getElem_mem h)] at hp
      cases hp

/-- **abundance-at-time table**: `ValueError` exactly outside `[0, t_max]`; otherwise column `i` is
result `i` evaluated at `t` — the same results the single-energy lookup returns -/
theorem abundanceAtTime_spec {ρ A : Type} (tMax : ℝ) (rs : List ρ) (at' : ρ → ℝ → A) (t : ℝ) :
    (t < 0 ∨ tMax < t → abundanceAtTime tMax rs at' t = none) ∧
    (0 ≤ t → t ≤ tMax → abundanceAtTime tMax rs at' t = some (rs.map fun r => at' r t)) := by
  constructor
  · intro h; simp [abundanceAtTime, h]
  · intro h0 h1
    have : ¬ (t < 0 ∨ tMax < t) := by push Not; exact ⟨h0, h1⟩
    simp [abundanceAtTime, this]

/-- **abundance-of-a-charge-state table**: `ValueError` for `cs > Z`; otherwise row `k`, column `i`
is entry `cs` of result `i` at the `k`-th sampling time (all sampling times lie in `[0, t_max]`) -/
theorem abundanceOfCs_spec {ρ : Type} (z : ℕ) (tMax : ℝ) (rs : List ρ) (at' : ρ → ℝ → List ℝ) (cs : ℕ) :
    (z < cs → abundanceOfCs z tMax rs at' cs = none) ∧
    (cs ≤ z → abundanceOfCs z tMax rs at' cs =
      some (csTimes tMax, (csTimes tMax).map fun t => rs.map fun r => (at' r t).getD cs 0)) := by
  constructor
  · intro h; simp [abundanceOfCs, h]
  · intro h
    have : ¬ z < cs := by omega
    simp [abundanceOfCs, this]

theorem csTimes_in_domain (tMax : ℝ) (h : 0 ≤ tMax) : ∀ t ∈ csTimes tMax, 0 ≤ t ∧ t ≤ tMax := by
  intro t ht
  simp only [csTimes, List.mem_map] at ht
  obtain ⟨x, _, rfl⟩ := ht
  simp only [min'_real, max'_real, lit_real, Nat.cast_zero]
  exact ⟨le_min (le_max_right _ _) h, min_le_right _ _⟩

/-- every simulated energy can be looked up (for a reflexive equality, as `==` on non-NaN floats) -/
theorem getResult_of_mem {ε ρ : Type} (eq : ε → ε → Bool) (hrefl : ∀ a, eq a a = true) (es : List ε) (rs : List ρ)
    (hl : rs.length = es.length) (e : ε) (he : e ∈ es) : ∃ r, getResult eq es rs e = some r := by
  cases h : getResult eq es rs e with
  | some r => exact ⟨r, rfl⟩
  | none =>
    have := ((getResult_spec eq es rs hl e).2.mp h) e he
    rw [hrefl e] at this; cases this

/-- **the two tables refer to the same per-energy results**: row `k` of the charge-state table is entry
`cs` of every column of the abundance-at-time table taken at the `k`-th sampling time (`ts` = the
sampling times `csTimes t_max`) -/
theorem tables_consistent {ρ : Type} (z : ℕ) (tMax : ℝ) (h0 : 0 ≤ tMax) (rs : List ρ) (at' : ρ → ℝ → List ℝ) (cs : ℕ) (hcs : cs ≤ z)
    (ts : List ℝ) (hts : ts = csTimes tMax) :
    ∃ rows, abundanceOfCs z tMax rs at' cs = some (ts, rows) ∧ rows.length = ts.length ∧
      ∀ k (hk : k < ts.length) (hk' : k < rows.length),
        ∃ cols, abundanceAtTime tMax rs at' (ts[k]'hk) = some cols ∧ rows[k]'hk' = cols.map fun c => c.getD cs 0 := by
  have hdom : ∀ t ∈ ts, 0 ≤ t ∧ t ≤ tMax := by rw [hts]; exact csTimes_in_domain tMax h0
  have hspec : abundanceOfCs z tMax rs at' cs = some (ts, ts.map fun t => rs.map fun r => (at' r t).getD cs 0) := by
    rw [hts]; exact (abundanceOfCs_spec z tMax rs at' cs).2 hcs
  -- from here on `ts` is any list: with `csTimes tMax` (500 points) in its place the steps below run into the recursion limit
  clear hts
  refine ⟨ts.map fun t => rs.map fun r => (at' r t).getD cs 0, hspec, by simp, ?_⟩
  intro k hk hk'
  obtain ⟨hlo, hhi⟩ := hdom _ (List.getElem_mem hk)
  refine ⟨rs.map fun r => at' r (ts[k]'hk), (abundanceAtTime_spec tMax rs at' _).2 hlo hhi, ?_⟩
  simp

-- non-vacuity: the comparison of the implementation (`<=` on floats without NaN; here ℕ) is transitive and total
example : (∀ a b c : ℕ, decide (a ≤ b) → decide (b ≤ c) → decide (a ≤ c) = true) ∧ (∀ a b : ℕ, (decide (a ≤ b) || decide (b ≤ a)) = true) := by
  constructor
  · intro a b c; simp only [decide_eq_true_eq]; omega
  · intro a b; simp only [Bool.or_eq_true, decide_eq_true_eq]; omega
example : getResult (fun a b : ℕ => a == b) [1, 2, 2, 3] [10, 20, 21, 30] 2 = some 20 := by decide
example : getResult (fun a b : ℕ => a == b) [1, 2, 2, 3] [10, 20, 21, 30] 5 = none := by decide

end C17
