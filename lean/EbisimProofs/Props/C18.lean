import EbisimProofs.RealInst
import EbisimModel.Model.Book
import EbisimModel.Model.Adv
import EbisimProofs.Lemmas.Chunks
import EbisimProofs.Lemmas.Fold
import Mathlib.Data.List.GetD

/-! # C18 — result objects expose exactly the solver's solution, per target

`Adv.bounds` (the `lb/ub` arrays of `AdvancedModel.get`), `Res.assemble` (`_assemble_results`),
`Res.denseAbundance/denseTemperature` (the interpolators of `AdvancedResult`), `Res.outOfDomain`
(`_check_time_in_domain`), `Res.lerp` (`interp1d`), `Adv.initial` (`_assemble_initial_conditions`), `Adv.call` (the record
`advanced_simulation` hands to `solve_ivp`) and `Res.assembleRate/gatherRates` (the rate arrays of `_assemble_results`, `_gather_rates`). -/
namespace C18
open Adv Res Num

/-! ## the row blocks of the targets partition the joint vector -/

/-- sum of the block sizes `Z+1` -/
def total (zs : List ℕ) : ℕ := (zs.map (· + 1)).sum

theorem bounds_length (zs : List ℕ) (off : ℕ) : (bounds zs off).length = zs.length := by
  induction zs generalizing off with
  | nil => rfl
  | cons z zs ih => simp [bounds, ih]

theorem total_cons (z : ℕ) (zs : List ℕ) : total (z :: zs) = z + 1 + total zs := rfl

/-- the row blocks are the chunks of sizes `Z+1`: none is empty, so `Chunks.go` skips none -/
theorem bounds_eq_go (zs : List ℕ) (off : ℕ) : bounds zs off = Chunks.go off (zs.map (· + 1)) := by
  induction zs generalizing off with
  | nil => rfl
  | cons z zs ih => simp [bounds, Chunks.go, ih, Nat.add_assoc]

theorem bounds_getElem (zs : List ℕ) (off i : ℕ) (h : i < (bounds zs off).length) :
    (bounds zs off)[i] = (off + total (zs.take i), off + total (zs.take (i + 1))) := by
  induction zs generalizing off i with
  | nil => simp [bounds] at h
  | cons z zs ih =>
    cases i with
    | zero => simp [bounds, total, Nat.add_assoc]
    | succ i =>
      simp only [bounds, List.getElem_cons_succ, List.take_succ_cons, total_cons]
      rw [ih (off + z + 1) i]
      simp only [Nat.add_assoc]

/-- **consecutive blocks are adjacent** -/
theorem bounds_contiguous (zs : List ℕ) (i : ℕ) (h : i + 1 < zs.length) :
    ((bounds zs 0)[i + 1]'(by rw [bounds_length]; exact h)).1 = ((bounds zs 0)[i]'(by rw [bounds_length]; omega)).2 := by
  rw [bounds_getElem zs 0 (i + 1), bounds_getElem zs 0 i]

/-- **the first block starts at row 0, the last ends at `nq`** (`= total zs`) -/
theorem bounds_first_last (zs : List ℕ) (h : 0 < zs.length) :
    ((bounds zs 0)[0]'(by rw [bounds_length]; exact h)).1 = 0 ∧
    ((bounds zs 0)[zs.length - 1]'(by rw [bounds_length]; omega)).2 = total zs := by
  rw [bounds_getElem zs 0 0, bounds_getElem zs 0 (zs.length - 1), Nat.sub_add_cancel h, List.take_length]
  exact ⟨rfl, Nat.zero_add _⟩

/-! ## each target's result holds exactly its own block of rows of the joint solution -/

theorem rows_length {β : Type} (col : List β) (lo hi : ℕ) (h : hi ≤ col.length) : (rows col lo hi).length = hi - lo := by
  rw [rows, List.length_take, List.length_drop]
  omega

/-- row `k` of the block is row `lo + k` of the column -/
theorem rows_getElem? {β : Type} (col : List β) (lo hi k : ℕ) (hk : k < hi - lo) : (rows col lo hi)[k]? = col[lo + k]? := by
  rw [rows, List.getElem?_take_of_lt hk, List.getElem?_drop]

/-- **the blocks of all targets, concatenated in target order, are exactly the rows `[off, off + Σ(Z+1))` of the column**: every row of
the joint solution belongs to exactly one target and no row is duplicated or lost -/
theorem blocks_partition {β : Type} (col : List β) (zs : List ℕ) (off : ℕ) :
    ((bounds zs off).map fun b => rows col b.1 b.2).flatten = rows col off (off + total zs) := by
  rw [bounds_eq_go, ← List.flatMap_def, rows, Nat.add_sub_cancel_left]
  exact Chunks.flatMap_go (fun a n => (col.drop a).take n) (fun _ => rfl) (fun a m n => by rw [List.take_add, List.drop_drop]) off _

/-- **`_assemble_results`**: target `i` receives, for every stored column, the density rows
`[lb_i, ub_i)` and the temperature rows `[nq + lb_i, nq + ub_i)` -/
theorem assemble_spec {β : Type} (cols : List (List β)) (nq : ℕ) (bs : List (ℕ × ℕ)) (i : ℕ) (h : i < bs.length) :
    (assemble cols nq bs)[i]'(by simpa [assemble] using h) =
      (cols.map fun c => rows c bs[i].1 bs[i].2, cols.map fun c => rows c (nq + bs[i].1) (nq + bs[i].2)) := by
  simp [assemble]

/-- one result per target, each with one column per stored time -/
theorem assemble_shape {β : Type} (cols : List (List β)) (nq : ℕ) (bs : List (ℕ × ℕ)) :
    (assemble cols nq bs).length = bs.length ∧ ∀ r ∈ assemble cols nq bs, r.1.length = cols.length ∧ r.2.length = cols.length := by
  constructor
  · simp [assemble]
  · intro r hr
    simp only [assemble, List.mem_map] at hr
    obtain ⟨b, _, rfl⟩ := hr
    simp

/-- **the dense-output queries address the same rows as the stored arrays**: with `2·nq` rows in the
joint solution, `y.shape[0]//2 + lb = nq + lb` -/
theorem dense_rows_agree {β : Type} (sol : ℝ → List β) (nq lb ub : ℕ) (t : ℝ) :
    denseAbundance sol lb ub t = rows (sol t) lb ub ∧
    denseTemperature sol (2 * nq) lb ub t = rows (sol t) (nq + lb) (nq + ub) := by
  constructor
  · rfl
  · simp [denseTemperature]

/-! ## queries outside the simulated interval raise `ValueError` -/

theorem minL_spec (x : ℝ) (xs : List ℝ) : minL (x :: xs) ∈ x :: xs ∧ ∀ a ∈ x :: xs, minL (x :: xs) ≤ a :=
  ⟨foldl_min_mem min'_real x xs, foldl_min_le min'_real x xs⟩

theorem maxL_spec (x : ℝ) (xs : List ℝ) : maxL (x :: xs) ∈ x :: xs ∧ ∀ a ∈ x :: xs, a ≤ maxL (x :: xs) :=
  ⟨foldl_max_mem max'_real x xs, le_foldl_max max'_real x xs⟩

/-- **`ValueError` exactly outside the simulated interval**: the query is rejected iff `t` lies below
every stored time or above every stored time -/
theorem domain_error (ts : List ℝ) (hne : ts ≠ []) (t : ℝ) :
    outOfDomain ts t = true ↔ (∀ a ∈ ts, t < a) ∨ (∀ a ∈ ts, a < t) := by
  obtain ⟨x, xs, rfl⟩ := List.exists_cons_of_ne_nil hne
  obtain ⟨hmin, hle⟩ := minL_spec x xs
  obtain ⟨hmax, hge⟩ := maxL_spec x xs
  rw [outOfDomain, decide_eq_true_iff]
  apply or_congr
  · exact ⟨fun h a ha => lt_of_lt_of_le h (hle a ha), fun h => h _ hmin⟩
  · exact ⟨fun h a ha => lt_of_le_of_lt (hge a ha) h, fun h => h _ hmax⟩

/-- in particular every stored time is accepted -/
theorem stored_time_in_domain (ts : List ℝ) (t : ℝ) (h : t ∈ ts) : outOfDomain ts t = false := by
  rw [← Bool.not_eq_true, domain_error ts (List.ne_nil_of_mem h)]
  rintro (h1 | h1)
  · exact lt_irrefl _ (h1 t h)
  · exact lt_irrefl _ (h1 t h)

/-! ## linear interpolation without dense output -/

/-- number of leading entries `< t` of a strictly increasing list, for `ts[i] < t ≤ ts[i+1]` -/
theorem takeWhile_lt_between (ts : List ℝ) (hs : ts.Pairwise (· < ·)) (i : ℕ) (h : i + 1 < ts.length) (t : ℝ)
    (h0 : ts[i] < t) (h1 : t ≤ ts[i + 1]) :
    (ts.takeWhile fun x => decide (x < t)).length = i + 1 := by
  -- the first entry that is not `< t` is entry `i + 1`: every entry up to `i` is `≤ ts[i] < t`
  have hfind : ts.findIdx (fun x => !decide (x < t)) = i + 1 := by
    refine (List.findIdx_eq h).2 ⟨?_, fun j hj => ?_⟩
    · rw [Bool.not_eq_true', decide_eq_false_iff_not]
      exact not_lt.2 h1
    · rw [Bool.not_eq_false', decide_eq_true_iff]
      rcases Nat.lt_succ_iff_lt_or_eq.1 hj with hlt | rfl
      · exact lt_trans (List.pairwise_iff_getElem.1 hs j i (Nat.lt_trans hj h) (Nat.lt_of_succ_lt h) hlt) h0
      · exact h0
  rw [List.takeWhile_eq_take_findIdx_not, hfind, List.length_take, Nat.min_eq_left h.le]

/-! The segment through `(x0, a)` and `(x1, b)`, as `interp1d` writes it: at `x0` it returns the left column, at `x1` the right one, and
between them a value between `a` and `b`. The last is about real variables (inside `lerp` the same terms are list entries, each with a
proof of its index bound). -/

theorem zipWith_seg_left (x0 x1 : ℝ) {c d : List ℝ} (h : c.length = d.length) :
    List.zipWith (fun y0 y1 => (y1 - y0) / (x1 - x0) * (x0 - x0) + y0) c d = c := by
  simp only [sub_self, mul_zero, zero_add]
  rw [← List.map_uncurry_zip_eq_zipWith]
  exact List.map_fst_zip h.le

theorem zipWith_seg_right {x0 x1 : ℝ} (hx : x0 < x1) {c d : List ℝ} (h : c.length = d.length) :
    List.zipWith (fun y0 y1 => (y1 - y0) / (x1 - x0) * (x1 - x0) + y0) c d = d := by
  simp only [div_mul_cancel₀ _ (sub_pos.2 hx).ne', sub_add_cancel]
  rw [← List.map_uncurry_zip_eq_zipWith]
  exact List.map_snd_zip h.ge

/-- the value is the convex combination `(1 - w) a + w b` with `w = (t - x0) / (x1 - x0) ∈ [0, 1]` -/
theorem seg_between (a b : ℝ) {x0 x1 t : ℝ} (h0 : x0 < t) (h1 : t ≤ x1) :
    min a b ≤ (b - a) / (x1 - x0) * (t - x0) + a ∧ (b - a) / (x1 - x0) * (t - x0) + a ≤ max a b := by
  have hd : 0 < x1 - x0 := by linarith
  have hw0 : 0 ≤ (t - x0) / (x1 - x0) := div_nonneg (by linarith) hd.le
  have hw1 : 0 ≤ 1 - (t - x0) / (x1 - x0) := sub_nonneg.2 ((div_le_one hd).2 (by linarith))
  have e : (b - a) / (x1 - x0) * (t - x0) + a = (1 - (t - x0) / (x1 - x0)) • a + ((t - x0) / (x1 - x0)) • b := by
    simp only [smul_eq_mul]
    ring
  rw [e]
  exact ⟨Convex.min_le_combo a b hw1 hw0 (sub_add_cancel _ _), Convex.combo_le_max a b hw1 hw0 (sub_add_cancel _ _)⟩

/-- `lerp` once the bracketing pair `(j, j+1)` is known -/
theorem lerp_eq_zipWith (ts : List ℝ) (cols : List (List ℝ)) (hl : cols.length = ts.length) (t : ℝ) (j : ℕ) (hj : j + 1 < ts.length)
    (hhi : min (max (searchLeft ts t) 1) (ts.length - 1) = j + 1) :
    lerp ts cols t = List.zipWith (fun y0 y1 => (y1 - y0) / (ts[j + 1] - ts[j]) * (t - ts[j]) + y0) (cols[j]'(by omega)) (cols[j + 1]'(by omega)) := by
  simp only [lerp, hhi, Nat.add_sub_cancel]
  rw [List.getD_eq_getElem _ _ (by omega : j < ts.length), List.getD_eq_getElem _ _ hj,
    List.getD_eq_getElem _ _ (by omega : j < cols.length), List.getD_eq_getElem _ _ (by omega : j + 1 < cols.length)]

/-- **a query between two stored times is the linear interpolation of the two neighbouring stored columns**
(no dense output): for `ts[i] < t ≤ ts[i+1]`, entry `k` is
`(Y[k,i+1] − Y[k,i]) / (ts[i+1] − ts[i]) · (t − ts[i]) + Y[k,i]`, and it lies between the two stored values -/
theorem lerp_between (ts : List ℝ) (cols : List (List ℝ)) (hs : ts.Pairwise (· < ·)) (hl : cols.length = ts.length)
    (i : ℕ) (h : i + 1 < ts.length) (t : ℝ) (h0 : ts[i] < t) (h1 : t ≤ ts[i + 1])
    (k : ℕ) (hk0 : k < (cols[i]'(by omega)).length) (hk1 : k < (cols[i + 1]'(by omega)).length) :
    ∃ hk : k < (lerp ts cols t).length,
      (lerp ts cols t)[k] = ((cols[i + 1]'(by omega))[k] - (cols[i]'(by omega))[k]) / (ts[i + 1] - ts[i]) * (t - ts[i]) + (cols[i]'(by omega))[k] ∧
      min ((cols[i]'(by omega))[k]) ((cols[i + 1]'(by omega))[k]) ≤ (lerp ts cols t)[k] ∧
      (lerp ts cols t)[k] ≤ max ((cols[i]'(by omega))[k]) ((cols[i + 1]'(by omega))[k]) := by
  rw [lerp_eq_zipWith ts cols hl t i h (by rw [searchLeft, takeWhile_lt_between ts hs i h t h0 h1]; omega)]
  refine ⟨by rw [List.length_zipWith]; omega, ?_⟩
  simp only [List.getElem_zipWith, true_and]
  exact seg_between _ _ h0 h1

/-- **a query at a stored time returns the stored column** (linear interpolation, strictly
increasing times, at least two of them, all columns of the same length) -/
theorem lerp_at_node (ts : List ℝ) (cols : List (List ℝ)) (hs : ts.Pairwise (· < ·)) (hl : cols.length = ts.length)
    (h2 : 2 ≤ ts.length) (hc : ∀ c ∈ cols, ∀ d ∈ cols, c.length = d.length) (i : ℕ) (h : i < ts.length) :
    lerp ts cols ts[i] = cols[i]'(by omega) := by
  rcases i with _ | j
  · -- first node: nothing precedes it, the pair is `(0, 1)` and `t` is its left end
    have hsl : searchLeft ts ts[0] = 0 := by
      obtain ⟨x, xs, rfl⟩ := List.exists_cons_of_length_pos h
      simp [searchLeft]
    rw [lerp_eq_zipWith ts cols hl _ 0 (by omega) (by rw [hsl]; omega)]
    exact zipWith_seg_left _ _ (hc _ (List.getElem_mem _) _ (List.getElem_mem _))
  · -- node `j + 1`: the pair is `(j, j + 1)` and `t` is its right end
    have hlt : ts[j] < ts[j + 1] := List.pairwise_iff_getElem.mp hs j (j + 1) (by omega) h (by omega)
    rw [lerp_eq_zipWith ts cols hl _ j h (by rw [searchLeft, takeWhile_lt_between ts hs j h _ hlt le_rfl]; omega)]
    exact zipWith_seg_right hlt (hc _ (List.getElem_mem _) _ (List.getElem_mem _))

/-! ## the first column is the declared initial conditions, temperatures of unpopulated states raised -/

/-- the temperature the integration starts from for a state with declared `(n, kT)` and charge `q` -/
noncomputable def startKT (fwhm : ℝ) (q : ℕ) (n kT : ℝ) : ℝ :=
  if n < (1.00001 : ℝ) * Gen.Const.MINIMAL_N_1D then max kT (max (fwhm * q) Gen.Const.MINIMAL_KBT) else kT

/-- **first column = declared initial conditions**, densities verbatim in target order followed by the
temperatures, where only states at the minimal density have their temperature raised -/
theorem initial_spec (fwhm : ℝ) (targets : List (List ℝ × List ℝ)) :
    initial fwhm targets = (targets.map (·.1)).flatten ++
      (targets.map fun t => (List.zipWith (fun n kT => (n, kT)) t.1 t.2).mapIdx fun q p => startKT fwhm q p.1 p.2).flatten := by
  unfold initial startKT
  simp only [max'_real]

/-- **temperatures of unpopulated charge states are raised to at least energy spread × charge**, those
of populated states are the declared ones -/
theorem startKT_floor (fwhm : ℝ) (q : ℕ) (n kT : ℝ) :
    (n < (1.00001 : ℝ) * Gen.Const.MINIMAL_N_1D → fwhm * q ≤ startKT fwhm q n kT ∧ kT ≤ startKT fwhm q n kT ∧
        (fwhm * q ≤ kT → Gen.Const.MINIMAL_KBT ≤ kT → startKT fwhm q n kT = kT)) ∧
    (¬ n < (1.00001 : ℝ) * Gen.Const.MINIMAL_N_1D → startKT fwhm q n kT = kT) := by
  unfold startKT
  constructor
  · intro h
    simp only [h, if_true]
    refine ⟨le_trans (le_max_left _ _) (le_max_right _ _), le_max_left _ _, ?_⟩
    intro h1 h2
    exact max_eq_left (max_le h1 h2)
  · intro h; simp only [h, if_false]

/-- the start vector has one density and one temperature per state -/
theorem initial_length (fwhm : ℝ) (targets : List (List ℝ × List ℝ)) (h : ∀ t ∈ targets, t.1.length = t.2.length) :
    (initial fwhm targets).length = 2 * ((targets.map (·.1.length)).sum) := by
  rw [initial_spec]
  simp only [List.length_append, List.length_flatten, List.map_map]
  have : (targets.map (List.length ∘ fun t => (List.zipWith (fun n kT => (n, kT)) t.1 t.2).mapIdx fun q p => startKT fwhm q p.1 p.2))
      = targets.map (List.length ∘ fun t => t.1) := by
    apply List.map_congr_left
    intro t ht
    simp [h t ht]
  rw [this]
  simp only [Function.comp_def]
  omega

-- non-vacuity: two targets (Z = 2, Z = 1) and a three-point time axis
example : bounds [2, 1] 0 = [(0, 3), (3, 5)] := by decide
example : ([0, 1, 3] : List ℝ).Pairwise (· < ·) := by simp [List.pairwise_cons]

/-- **the record `advanced_simulation` hands to the solver**: the start vector is the assembled initial condition (`initial_spec`),
the integration runs over `(0, t_max)`, the right-hand side is declared vectorised, the method is Radau unless the caller chooses one -/
theorem solver_call_spec (fwhm tMax : ℝ) (targets : List (List ℝ × List ℝ)) (method : Option String) :
    (Adv.call fwhm tMax targets method).y0 = Adv.initial fwhm targets ∧
    (Adv.call fwhm tMax targets method).t0 = 0 ∧ (Adv.call fwhm tMax targets method).t1 = tMax ∧
    (Adv.call fwhm tMax targets method).vectorized = true ∧
    (method = none → (Adv.call fwhm tMax targets method).method = "Radau") ∧
    (∀ m, method = some m → (Adv.call fwhm tMax targets method).method = m) := by
  refine ⟨rfl, by simp [Adv.call], rfl, rfl, ?_, ?_⟩
  · intro h; simp [Adv.call, h]
  · intro m h; simp [Adv.call, h]

/-- **rate arrays of a target**: one column per stored time; a device-wide rate (one row) keeps its single row for every target, every other
rate has exactly the `ub − lb = Z + 1` rows of the target — rows `[lb, ub)` of the joint array -/
theorem assembleRate_spec {β : Type} (cols : List (List β)) (lb ub nq : ℕ) (hlu : lb ≤ ub) (hub : ub ≤ nq) :
    (assembleRate cols lb ub).length = cols.length ∧
    (∀ c ∈ cols, c.length = 1 → ∀ k (h : k < (assembleRate cols lb ub).length) (hk : k < cols.length), cols[k] = c →
        (assembleRate cols lb ub)[k] = c) ∧
    (∀ k (h : k < (assembleRate cols lb ub).length) (hk : k < cols.length), cols[k].length = nq → nq ≠ 1 →
        (assembleRate cols lb ub)[k] = rows cols[k] lb ub ∧ ((assembleRate cols lb ub)[k]).length = ub - lb) := by
  refine ⟨by simp [assembleRate], ?_, ?_⟩
  · intro c _ hc1 k h hk e
    simp only [assembleRate, List.getElem_map, e, hc1, if_true]
  · intro k h hk hlen hne
    have hne' : ¬ cols[k].length = 1 := by rw [hlen]; exact hne
    simp only [assembleRate, List.getElem_map, hne', if_false, true_and]
    rw [rows_length]
    omega

/-- the rate columns stored by `_gather_rates` are the kernel's rates at the stored solution points, in order -/
theorem gatherRates_spec {κ β γ : Type} (rates : γ → List (κ × List β)) (points : List γ) :
    (gatherRates rates points).length = points.length ∧
    ∀ k (h : k < (gatherRates rates points).length) (hk : k < points.length), (gatherRates rates points)[k] = rates points[k] := by
  refine ⟨by simp [gatherRates], fun k h hk => by simp [gatherRates]⟩

end C18
