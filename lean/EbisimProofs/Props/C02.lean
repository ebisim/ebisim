import EbisimProofs.Lemmas.RateMat
import EbisimProofs.Props.C07
import EbisimProofs.Props.C08
import EbisimProofs.Props.C09

/-! # C02 — the basic model conserves particles and keeps abundances non-negative

Matrix level (`RateMat.eiM/recM`, bridged to the list model `Xs.eiMat/recMat`, `Basic.rateMatrix`
that the driver executes and that is compared bit-exactly with `eixs_mat/rrxs_mat/drxs_mat` and the
captured Jacobian of `basic_simulation`).  The exact solution `exp(t J) N₀` conserves the total and
stays non-negative; what LSODA/Radau add on top (undershoot of the order of `atol`) is monitored. -/
open Matrix NormedSpace
namespace C02
open RateMat Xs Gen

/-! ## structure of the three process matrices -/

/-- **tridiagonal, off-diagonal ≥ 0, diagonal ≤ 0** for non-negative cross sections -/
theorem process_matrix_structure {n : ℕ} (x : Fin n → ℝ) (hx : ∀ k, 0 ≤ x k) (i j : Fin n) :
    ((i ≠ j → 0 ≤ eiM x i j) ∧ eiM x i i ≤ 0 ∧ ((i : ℕ) ≠ (j : ℕ) + 1 → i ≠ j → eiM x i j = 0)) ∧
    ((i ≠ j → 0 ≤ recM x i j) ∧ recM x i i ≤ 0 ∧ ((i : ℕ) + 1 ≠ (j : ℕ) → i ≠ j → recM x i j = 0)) :=
  ⟨xfer_structure (R := fun i j : Fin n => (i : ℕ) = (j : ℕ) + 1) x (fun i => by omega) hx i j,
   xfer_structure (R := fun i j : Fin n => (i : ℕ) + 1 = (j : ℕ)) x (fun i => by omega) hx i j⟩

/-- **columns sum to exactly zero iff the boundary cross section vanishes** (bare nucleus for
ionisation, neutral atom for recombination) — both directions -/
theorem colsum_zero_iff {n : ℕ} (x : Fin n → ℝ) :
    ((∀ j, ∑ i, eiM x i j = 0) ↔ ∀ j : Fin n, (j : ℕ) + 1 = n → x j = 0) ∧
    ((∀ j, ∑ i, recM x i j = 0) ↔ ∀ j : Fin n, (j : ℕ) = 0 → x j = 0) := by
  constructor
  · -- the only column without a row below it is the last
    rw [eiM_eq, xfer_colsum_zero_iff x fun a b j ha hb => Fin.ext (ha.trans hb.symm)]
    refine forall_congr' fun j => ⟨fun h hj => h fun i => by omega, fun h hj => h ?_⟩
    by_contra hn
    exact hj ⟨j + 1, by omega⟩ rfl
  · -- the only column without a row above it is the first
    rw [recM_eq, xfer_colsum_zero_iff x fun a b j ha hb => Fin.ext (by omega)]
    refine forall_congr' fun j => ⟨fun h hj => h fun i => by omega, fun h hj => h ?_⟩
    by_contra hn
    exact hj ⟨j - 1, by omega⟩ (by simp only; omega)

/-! ## the cross-section vectors of every element close the matrices -/

theorem process_matrices_closed (Z : ℕ) (hZ1 : 1 ≤ Z) (hZ : Z ≤ 105) (E w : ℝ) :
    (∀ j, ∑ i, eiM (toV (Z + 1) (eixsVec Z E)) i j = 0) ∧
    (∀ j, ∑ i, recM (toV (Z + 1) (rrxsVec Z E)) i j = 0) ∧
    (∀ j, ∑ i, recM (toV (Z + 1) (drxsVec Z E w)) i j = 0) := by
  obtain ⟨hlen, hlast⟩ := C07.eixs_bare_zero Z hZ1 hZ E
  refine ⟨(colsum_zero_iff _).1.mpr fun j hj => toV_of_getElem? ?_,
    (colsum_zero_iff _).2.mpr fun j hj => toV_of_getElem? ?_,
    (colsum_zero_iff _).2.mpr fun j hj => toV_of_getElem? ?_⟩
  · -- the last entry is the one of the bare nucleus
    rw [← hlast, List.getLast?_eq_getElem?, hlen]
    congr 1
    omega
  · rw [hj]
    exact (C08.rr_neutral_zero Z hZ1 hZ E).2
  · rw [hj]
    exact (C09.dr_main Z hZ1 hZ E w).2.2

theorem toV_rrxs_nonneg (Z : ℕ) (hZ1 : 1 ≤ Z) (hZ : Z ≤ 105) (E : ℝ) (hE : 0 < E) (k : Fin (Z + 1)) :
    0 ≤ toV (Z + 1) (rrxsVec Z E) k := by
  obtain ⟨hlen, h0⟩ := C08.rr_neutral_zero Z hZ1 hZ E
  refine toV_nonneg (fun q hq => ?_) k
  rcases Nat.eq_zero_or_pos q with rfl | hq1
  · exact (Option.some.inj ((List.getElem?_eq_getElem hq).symm.trans h0)).ge
  · obtain ⟨_, _, _, hpos⟩ := C08.rr_main Z q hZ1 hZ hq1 (by omega) E
    exact (hpos hE).le

/-- `j·10⁴/e (EI + RR [+ DR])` as a matrix; `w = none` when no (non-zero) width is given -/
noncomputable def rateM (Z : ℕ) (j E : ℝ) (w : Option ℝ) : Matrix (Fin (Z + 1)) (Fin (Z + 1)) ℝ :=
  Basic.flux j • (eiM (toV (Z + 1) (eixsVec Z E)) + recM (toV (Z + 1) (rrxsVec Z E))
    + (match w with | none => 0 | some w => recM (toV (Z + 1) (drxsVec Z E w))))

/-- CNI: the neutral row frozen -/
noncomputable def cniM {n : ℕ} (J : Matrix (Fin n) (Fin n) ℝ) : Matrix (Fin n) (Fin n) ℝ :=
  fun i j => if (i : ℕ) = 0 then 0 else J i j

theorem flux_nonneg (j : ℝ) (hj : 0 ≤ j) : 0 ≤ Basic.flux j := by
  unfold Basic.flux; have := Const.Q_E_pos; positivity

theorem rateM_colsum (Z : ℕ) (hZ1 : 1 ≤ Z) (hZ : Z ≤ 105) (j E : ℝ) (w : Option ℝ) :
    ∀ c, ∑ i, rateM Z j E w i c = 0 := by
  intro c
  -- the width `0` is a dummy: only the ionisation and radiative parts are taken here, DR (if any) comes with its own width in `h3`
  obtain ⟨h1, h2, -⟩ := process_matrices_closed Z hZ1 hZ E 0
  have h3 : ∑ i : Fin (Z + 1), (match w with | none => 0 | some w => recM (toV (Z + 1) (drxsVec Z E w))) i c = 0 := by
    cases w with
    | none => simp
    | some w => exact (process_matrices_closed Z hZ1 hZ E w).2.2 c
  simp only [rateM, Matrix.smul_apply, Matrix.add_apply, smul_eq_mul, ← Finset.mul_sum, Finset.sum_add_distrib, h1 c, h2 c, h3,
    add_zero, mul_zero]

theorem rateM_metzler (Z : ℕ) (hZ1 : 1 ≤ Z) (hZ : Z ≤ 105) (j E : ℝ) (hj : 0 ≤ j) (hE : 0 < E) (w : Option ℝ) :
    ∀ i c, i ≠ c → 0 ≤ rateM Z j E w i c := by
  intro i c hic
  have h1 := (process_matrix_structure _ (toV_nonneg (C07.eixs_nonneg Z hZ1 hZ E)) i c).1.1 hic
  have h2 := (process_matrix_structure _ (toV_rrxs_nonneg Z hZ1 hZ E hE) i c).2.1 hic
  have h3 : 0 ≤ (match w with | none => 0 | some w => recM (toV (Z + 1) (drxsVec Z E w))) i c := by
    cases w with
    | none => exact le_refl _
    | some w =>
      exact (process_matrix_structure _ (toV_nonneg fun q hq => ((C09.dr_main Z hZ1 hZ E w).2.1 q hq).2) i c).2.1 hic
  exact mul_nonneg (flux_nonneg j hj) (add_nonneg (add_nonneg h1 h2) h3)

attribute [local instance] Matrix.linftyOpNormedRing Matrix.linftyOpNormedAlgebra

/-! ## consequences for the exact solution `N(t) = exp(t J) N₀` -/

/-- **the total abundance is conserved at every time** (any matrix with zero column sums) -/
theorem total_conserved {n : ℕ} (J : Matrix (Fin n) (Fin n) ℝ) (hJ : ∀ c, ∑ i, J i c = 0) (t : ℝ) (N0 : Fin n → ℝ) :
    ∑ i, (exp (t • J) *ᵥ N0) i = ∑ i, N0 i := by
  rw [← one_dotProduct, ← one_dotProduct, conserved 1 J (one_vecMul_eq_zero hJ)]

/-- **no abundance ever becomes negative** (any Metzler matrix, `t ≥ 0`) -/
theorem nonneg_preserved {n : ℕ} (J : Matrix (Fin n) (Fin n) ℝ) (hJ : ∀ i c, i ≠ c → 0 ≤ J i c) (t : ℝ) (ht : 0 ≤ t)
    (N0 : Fin n → ℝ) (hN : ∀ i, 0 ≤ N0 i) : ∀ i, 0 ≤ (exp (t • J) *ᵥ N0) i := by
  intro i
  have hexp := exp_nonneg_of_metzler (t • J) (fun a b hab => by
    simp only [Matrix.smul_apply, smul_eq_mul]; exact mul_nonneg ht (hJ a b hab))
  simp only [Matrix.mulVec, dotProduct]
  exact Finset.sum_nonneg fun c _ => mul_nonneg (hexp i c) (hN c)

/-- **under CNI the neutral abundance is exactly constant** and ions stay non-negative -/
theorem cni_neutral_constant {n : ℕ} (J : Matrix (Fin n) (Fin n) ℝ) (t : ℝ) (N0 : Fin n → ℝ) (i0 : Fin n) (h0 : (i0 : ℕ) = 0) :
    (exp (t • cniM J) *ᵥ N0) i0 = N0 i0 := by
  -- the unit vector of the frozen row is a left null vector of `cniM J`
  have h := conserved (Pi.single i0 1) (cniM J) (by rw [single_one_vecMul]; exact funext fun c => if_pos h0) t N0
  rwa [single_one_dotProduct, single_one_dotProduct] at h

theorem cni_metzler {n : ℕ} (J : Matrix (Fin n) (Fin n) ℝ) (hJ : ∀ i c, i ≠ c → 0 ≤ J i c) :
    ∀ i c, i ≠ c → 0 ≤ cniM J i c :=
  fun i c hic => ite_nonneg le_rfl (hJ i c hic)

/-- **C02 for every element**: with `J` the rate matrix of `basic_simulation` (non-CNI) the total
is conserved and abundances stay non-negative for all `t ≥ 0`; under CNI the neutral abundance is
constant and all abundances stay non-negative. -/
theorem basic_model_conserves (Z : ℕ) (hZ1 : 1 ≤ Z) (hZ : Z ≤ 105) (j E : ℝ) (hj : 0 ≤ j) (hE : 0 < E) (w : Option ℝ)
    (t : ℝ) (ht : 0 ≤ t) (N0 : Fin (Z + 1) → ℝ) (hN : ∀ i, 0 ≤ N0 i) :
    (∑ i, (exp (t • rateM Z j E w) *ᵥ N0) i = ∑ i, N0 i) ∧
    (∀ i, 0 ≤ (exp (t • rateM Z j E w) *ᵥ N0) i) ∧
    ((exp (t • cniM (rateM Z j E w)) *ᵥ N0) 0 = N0 0) ∧
    (∀ i, 0 ≤ (exp (t • cniM (rateM Z j E w)) *ᵥ N0) i) :=
  ⟨total_conserved _ (rateM_colsum Z hZ1 hZ j E w) t N0,
   nonneg_preserved _ (rateM_metzler Z hZ1 hZ j E hj hE w) t ht N0 hN,
   cni_neutral_constant _ t N0 0 rfl,
   nonneg_preserved _ (cni_metzler _ (rateM_metzler Z hZ1 hZ j E hj hE w)) t ht N0 hN⟩

/-! ## the list model the driver executes is this matrix -/

/-- `eixs_mat + rrxs_mat` of an element, the part of `xs_mat` that is always there -/
theorem rep_eirr (Z : ℕ) (hZ1 : 1 ≤ Z) (hZ : Z ≤ 105) (E : ℝ) :
    Rep (Z + 1) (Basic.matAdd (eiMat (eixsVec Z E)) (recMat (rrxsVec Z E)))
      (eiM (toV (Z + 1) (eixsVec Z E)) + recM (toV (Z + 1) (rrxsVec Z E))) :=
  (rep_eiMat (C07.eixs_bare_zero Z hZ1 hZ E).1).add (rep_recMat (C08.rr_neutral_zero Z hZ1 hZ E).1)

theorem toM_xsMat_none (Z : ℕ) (hZ1 : 1 ≤ Z) (hZ : Z ≤ 105) (j E : ℝ) :
    toM (Z + 1) (Basic.rateMatrix Z j E none false) = rateM Z j E none := by
  simpa [Basic.rateMatrix, Basic.xsMat, rateM] using ((rep_eirr Z hZ1 hZ E).smul (Basic.flux j)).toM

-- non-vacuity: the hypotheses are met by argon at 5 keV, 100 A/cm²
example : (1 ≤ 18 ∧ 18 ≤ 105) ∧ (0 : ℝ) ≤ 100 ∧ (0 : ℝ) < 5000 := by norm_num

/-! ## exact column sums in binary64 (any scalar arithmetic), every size -/

section Exact
open Xs Num

variable {α : Type} [Num α]

/-- the scalar facts used: `0 + 0 = 0`, `0 − 0 = 0` and, for the one entry pair of a column, `(0 + (0 − x)) + (x − 0) = 0`
(all three hold in IEEE-754 binary64 for every finite `x`, in every rounding mode that is not toward −∞) -/
structure ScalarFacts (x : α) : Prop where
  zz_add : (lit 0 + lit 0 : α) = lit 0
  zz_sub : (lit 0 - lit 0 : α) = lit 0
  pair : (lit 0 + (lit 0 - x)) + (x - lit 0) = (lit 0 : α)

/-- **columns of `eixs_mat` sum to exactly zero in binary64 (or any scalar arithmetic with the three facts)**: summing column `j`
(`j + 1 < n`) of the model matrix top to bottom gives exactly `0` -/
theorem eiMat_colsum_exact (xs : List α) (j : Nat) (hj : j + 1 < xs.length) (h : ScalarFacts (xs.getD j (lit 0))) :
    ((eiMat xs).map fun row => row.getD j (lit 0)).foldl (· + ·) (lit 0) = lit 0 := by
  rw [show eiMat xs = tab _ _ from rfl, tab_column _ _ j (by omega)]
  refine foldl_add_pair _ _ _ j hj (fun i h1 h2 => ?_) ?_
  · rw [if_neg h2, if_neg h1, h.zz_sub, h.zz_add]
  · rw [if_neg j.succ_ne_self.symm, if_pos rfl, if_pos rfl, if_neg j.succ_ne_self]
    exact h.pair

/-- recombination: the pair appears in the order `x − 0` (row `j − 1`), `0 − x` (row `j`) -/
structure ScalarFactsRec (x : α) : Prop where
  zz_add : (lit 0 + lit 0 : α) = lit 0
  zz_sub : (lit 0 - lit 0 : α) = lit 0
  pair : (lit 0 + (x - lit 0)) + (lit 0 - x) = (lit 0 : α)

/-- **columns `1 … n−1` of `rrxs_mat` / `drxs_mat` sum to exactly zero** in the scalar arithmetic at hand (column index `j + 1`) -/
theorem recMat_colsum_exact (xs : List α) (j : Nat) (hj : j + 1 < xs.length) (h : ScalarFactsRec (xs.getD (j + 1) (lit 0))) :
    ((recMat xs).map fun row => row.getD (j + 1) (lit 0)).foldl (· + ·) (lit 0) = lit 0 := by
  rw [show recMat xs = tab _ _ from rfl, tab_column _ _ (j + 1) hj]
  refine foldl_add_pair _ _ _ j hj (fun i h1 h2 => ?_) ?_
  · rw [if_neg (fun e => h1 (Nat.succ_injective e)), if_neg h2, h.zz_sub, h.zz_add]
  · rw [if_pos rfl, if_neg j.succ_ne_self.symm, if_neg (j + 1).succ_ne_self]
    exact h.pair

end Exact

end C02
