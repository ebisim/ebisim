import EbisimProofs.Props.C04
import EbisimProofs.Lemmas.Fold

/-! # C05 — reported rates equal cross section × flux × density × overlap

The fields of `Adv.Stage` are what `_adv_rhs` writes into the rates dictionary (compared entry by
entry with the compiled kernel). The theorems below state each of them as the documented formula
over the device / target / gas definitions, the derivative as the signed sum of the enabled terms,
and what switching one effect off changes. -/
namespace C05
open Adv Num Gen

variable (m : Model ℝ) (y : Array ℝ)

/-! ## every reported quantity is its documented formula

A field of `stage m y` is matched against an `at'` lemma about variables by `exact`, which unfolds `stage` once; what the match needs and
how it fails is said at `Adv.at'_gated` (Lemmas/AdvBalance). Where a statement spells a literal differently from the model (`0`, `8` for
`lit 0`, `lit 8`) it is first brought to the model's spelling, since the unfolded side cannot be rewritten. -/

/-- electron flux `j/e · 10⁴` (A/cm² → 1/(m² s)) -/
theorem je_formula : (stage m y).je = m.j / Const.Q_E * 1e4 := by
  show m.j / Const.Q_E * (1e4 : ℝ) = _; rfl

/-- ionisation / recombination rates: `σ · n · j_e · f_ei` with the smoothed density -/
theorem R_ei_formula (k : ℕ) (hk : k < m.nq) (h : m.opts.EI = true) :
    at' (stage m y).R_ei k = at' (stage m y).xs_ei k * at' (stage m y).n k * (stage m y).je * at' (stage m y).fei k := by
  rw [at'_R_ei, if_pos ⟨h, hk⟩]

theorem R_rr_formula (k : ℕ) (hk : k < m.nq) (h : m.opts.RR = true) :
    at' (stage m y).R_rr k = at' (stage m y).xs_rr k * at' (stage m y).n k * (stage m y).je * at' (stage m y).fei k := by
  rw [at'_R_rr, if_pos ⟨h, hk⟩]

theorem R_dr_formula (k : ℕ) (hk : k < m.nq) (h : m.opts.DR = true) :
    at' (stage m y).R_dr k = at' (stage m y).xs_dr k * at' (stage m y).n k * (stage m y).je * at' (stage m y).fei k := by
  rw [at'_R_dr, if_pos ⟨h, hk⟩]

/-- the cross sections used are the precomputed ones, or — with `RECOMPUTE_CROSS_SECTIONS` — the
vector forms at the space-charge corrected mean energy (and the computed spread for DR) -/
theorem xs_used :
    (stage m y).xs_ei = (if m.opts.RECOMPUTE then ((m.zs.map fun z => Xs.eixsVec z (stage m y).e_kin).flatten.toArray) else m.eixs) ∧
    (stage m y).xs_rr = (if m.opts.RECOMPUTE then ((m.zs.map fun z => Xs.rrxsVec z (stage m y).e_kin).flatten.toArray) else m.rrxs) ∧
    (stage m y).xs_dr = (if m.opts.RECOMPUTE then ((m.zs.map fun z => Xs.drxsVec z (stage m y).e_kin (stage m y).fwhm).flatten.toArray) else m.drxs) :=
  ⟨rfl, rfl, rfl⟩

/-- charge exchange: `(Σ_gases σ_CX(q, IP_g) n0_g + Σ_{targets j with cx} σ_CX(q, IP_j) n3d(lb_j)) · n · v_th`,
accumulated gas by gas, then target by target -/
theorem R_cx_formula (k : ℕ) (hk : k < m.nq) (h : m.opts.CX = true) :
    at' (stage m y).R_cx k =
      (List.range m.cxTg.size).foldl (fun acc t =>
        if m.tgCx.getD t false then acc + at' (m.cxTg.getD t #[]) k * at' (stage m y).n3d (m.lb.getD t 0) * at' (stage m y).n k * at' (stage m y).v_th k else acc)
        ((List.range m.cxBg.size).foldl (fun acc g =>
          acc + at' (m.cxBg.getD g #[]) k * at' m.bgN0 g * at' (stage m y).n k * at' (stage m y).v_th k) 0) := by
  rw [show (0 : ℝ) = lit 0 by simp only [lit_real, Nat.cast_zero]]
  exact (at'_gated k).trans (dif_pos ⟨h, hk⟩)

/-- effective trap depths -/
theorem trap_depths :
    (stage m y).v_ax = (m.v_ax + m.v_ax_sc) - minA (stage m y).phi ∧ (stage m y).v_ra = -(minA (stage m y).phi) := ⟨rfl, rfl⟩

/-- the potential is the device's ion-free beam potential unless radial dynamics are on, in which
case it is the e-beam Boltzmann–Poisson solution for the current (smoothed) line densities (C13) -/
theorem potential_used :
    (stage m y).phi = if m.opts.RADIAL then
        (Radial.bpEbeam m.r.toList m.current m.r_e m.e_kin
          ((List.range m.nq).map fun k => (⟨at' (stage m y).n k, at' (stage m y).kT k, at' m.q k⟩ : Radial.Species ℝ))
          none (some m.ldu) m.maxSteps m.relDiff).phi.toArray
      else m.phi0 := rfl

/-- thermal velocity `√(8 e kT / (π A m_p))` -/
theorem v_th_formula (k : ℕ) (hk : k < m.nq) :
    at' (stage m y).v_th k = Real.sqrt (8 * Const.Q_E * at' (stage m y).kT k / (Const.PI * at' m.a k * Const.M_P)) := by
  rw [show (8 : ℝ) = lit 8 by simp only [lit_real, Nat.cast_ofNat]]
  exact (at'_ofFn _ k).trans (dif_pos hk)

/-- trapping parameters and collisional escape rates -/
theorem w_ax_formula (k : ℕ) (hk : k < m.nq) :
    at' (stage m y).w_ax k = trapping_strength_axial (at' (stage m y).kT k) (at' m.q k) (stage m y).v_ax ∧
    at' (stage m y).w_ra k = trapping_strength_radial (at' (stage m y).kT k) (at' m.q k) (at' m.a k) (stage m y).v_ra m.b_ax m.r_dt ∧
    at' (stage m y).e_ax k = collisional_escape_rate (at' (stage m y).ri k) (at' (stage m y).w_ax k) ∧
    at' (stage m y).e_ra k = collisional_escape_rate (at' (stage m y).ri k) (at' (stage m y).w_ra k) :=
  ⟨(at'_ofFn _ k).trans (dif_pos hk), (at'_ofFn _ k).trans (dif_pos hk), (at'_ofFn _ k).trans (dif_pos hk), (at'_ofFn _ k).trans (dif_pos hk)⟩

/-- escape rates: `max(ν_esc · n, 0)`, zero for neutral rows -/
theorem R_ax_formula (k : ℕ) (hk : k < m.nq) (h : m.opts.ESC_AX = true) :
    at' (stage m y).R_ax k = if k ∈ m.lb then 0 else max (at' (stage m y).e_ax k * at' (stage m y).n k) 0 := by
  rw [at'_R_ax]
  -- of the three conditions `k ∉ m.lb` is left, and the branches swap
  simp only [h, hk, true_and, and_true, ite_not]

/-- Spitzer heating `spitzer_heating(n3d, n_e, kT, E_mean, A, q) · f_ei` with `n_e = j_e / v_e(E_mean)` -/
theorem sh_formula (k : ℕ) (hk : k < m.nq) (h : m.opts.SPITZER = true) :
    at' (stage m y).sh k = spitzer_heating (at' (stage m y).n3d k) ((stage m y).je / electron_velocity (stage m y).e_kin)
      (at' (stage m y).kT k) (stage m y).e_kin (at' m.a k) (at' m.q k) * at' (stage m y).fei k :=
  (at'_gated k).trans (dif_pos ⟨h, hk⟩)

/-! ## the derivative is the signed sum of the enabled terms -/

/-- the returned density derivative of a row that is not a neutral one is the signed sum of the six rate arrays
(`C03.rhs_dn` with `C04.dkT_is_documented_sum` is the same for the temperature, `C03.neutrals_frozen` the neutral rows) -/
theorem rhs_is_signed_sum (k : ℕ) (hk : k ∉ m.lb) :
    (rhs m y).dn k = (-at' (stage m y).R_ei k + shiftUp (at' (stage m y).R_ei) k)
      + (-at' (stage m y).R_rr k + shiftDown m.nq (at' (stage m y).R_rr) k)
      + (-at' (stage m y).R_dr k + shiftDown m.nq (at' (stage m y).R_dr) k)
      + (-at' (stage m y).R_cx k + shiftDown m.nq (at' (stage m y).R_cx) k)
      - at' (stage m y).R_ax k - at' (stage m y).R_ra k := by
  have h := C03.dn_interior m.nq m.lb (stage m y).prates k hk
  -- unfolded by hand: left to unification, `at'` and `stage` are unfolded before `Stage.prates` is
  dsimp only [Stage.prates] at h
  exact h

/-! ## switching one effect off removes exactly its own contribution -/

/-- a disabled process contributes the zero array -/
theorem disabled_is_zero (k : ℕ) :
    (m.opts.EI = false → at' (stage m y).R_ei k = 0) ∧ (m.opts.RR = false → at' (stage m y).R_rr k = 0) ∧
    (m.opts.DR = false → at' (stage m y).R_dr k = 0) ∧ (m.opts.ESC_AX = false → at' (stage m y).R_ax k = 0) ∧
    (m.opts.ESC_RA = false → at' (stage m y).R_ra k = 0) :=
  ⟨fun h => at'_off h k, fun h => at'_off h k, fun h => at'_off h k, fun h => at'_off h k, fun h => at'_off h k⟩

/-- the same for charge exchange, Spitzer heating and ion–ion heat exchange: the reported array is
identically zero when the process is switched off -/
theorem disabled_is_zero' (k : ℕ) :
    (m.opts.CX = false → at' (stage m y).R_cx k = 0) ∧ (m.opts.SPITZER = false → at' (stage m y).sh k = 0) ∧
    (m.opts.CT = false → at' (stage m y).ct k = 0) :=
  ⟨fun h => at'_off h k, fun h => at'_off h k, fun h => at'_off h k⟩

/-- a field of the stage reads the option record only through `RADIAL`, `RECOMPUTE`, `OVERRIDE_FWHM` and, if it
stands behind a switch, through that switch (the fields in the order of the `switch_*` statements below) -/
theorem stage_opts_congr (o o' : Options) (hR : o'.RADIAL = o.RADIAL) (hC : o'.RECOMPUTE = o.RECOMPUTE)
    (hF : o'.OVERRIDE_FWHM = o.OVERRIDE_FWHM) :
    let S := stage { m with opts := o } y
    let S' := stage { m with opts := o' } y
    (o'.EI = o.EI → S'.R_ei = S.R_ei) ∧ (o'.RR = o.RR → S'.R_rr = S.R_rr) ∧ (o'.DR = o.DR → S'.R_dr = S.R_dr) ∧
    (o'.CX = o.CX → S'.R_cx = S.R_cx) ∧ (o'.ESC_AX = o.ESC_AX → S'.R_ax = S.R_ax) ∧ (o'.ESC_RA = o.ESC_RA → S'.R_ra = S.R_ra) ∧
    (o'.SPITZER = o.SPITZER → S'.sh = S.sh) ∧ (o'.CT = o.CT → S'.ct = S.ct) ∧ S'.fei = S.fei ∧
    (o'.IHEAT = o.IHEAT → S'.iheat = S.iheat) ∧
    S'.e_kin = S.e_kin ∧ S'.fwhm = S.fwhm ∧ S'.w_ax = S.w_ax ∧ S'.w_ra = S.w_ra ∧ S'.ri = S.ri ∧ S'.v_th = S.v_th ∧
    S'.xs_ei = S.xs_ei ∧ S'.xs_rr = S.xs_rr ∧ S'.xs_dr = S.xs_dr ∧ S'.phi = S.phi := by
  -- with both records split into their twelve switches every field is the same term on both sides
  cases o
  cases o'
  simp only at hR hC hF
  subst hR hC hF
  refine ⟨?_, ?_, ?_, ?_, ?_, ?_, ?_, ?_, rfl, ?_, rfl, rfl, rfl, rfl, rfl, rfl, rfl, rfl, rfl, rfl⟩
  all_goals
    intro h
    simp only at h
    subst h
    rfl

/-- with EI switched off all other stage arrays are the same arrays (definitional: none of them reads the switch) -/
theorem switch_EI_leaves_others (o : Options) (h : o = { m.opts with EI := false }) :
    let m' : Model ℝ := { m with opts := o }
    (stage m' y).R_rr = (stage m y).R_rr ∧ (stage m' y).R_dr = (stage m y).R_dr ∧ (stage m' y).R_cx = (stage m y).R_cx ∧
    (stage m' y).R_ax = (stage m y).R_ax ∧ (stage m' y).R_ra = (stage m y).R_ra ∧ (stage m' y).sh = (stage m y).sh ∧
    (stage m' y).ct = (stage m y).ct ∧ (stage m' y).fei = (stage m y).fei ∧ (stage m' y).iheat = (stage m y).iheat ∧
    (stage m' y).e_kin = (stage m y).e_kin ∧ (stage m' y).fwhm = (stage m y).fwhm := by
  subst h
  obtain ⟨_, rr, dr, cx, ax, ra, sh, ct, fei, ih, rest⟩ :=
    stage_opts_congr m y m.opts { m.opts with EI := false } rfl rfl rfl
  exact ⟨rr rfl, dr rfl, cx rfl, ax rfl, ra rfl, sh rfl, ct rfl, fei, ih rfl, rest.1, rest.2.1⟩

theorem switch_RR_leaves_others (o : Options) (h : o = { m.opts with RR := false }) :
    let m' : Model ℝ := { m with opts := o }
    (stage m' y).R_ei = (stage m y).R_ei ∧ (stage m' y).R_dr = (stage m y).R_dr ∧ (stage m' y).R_cx = (stage m y).R_cx ∧
    (stage m' y).R_ax = (stage m y).R_ax ∧ (stage m' y).R_ra = (stage m y).R_ra ∧ (stage m' y).sh = (stage m y).sh ∧
    (stage m' y).ct = (stage m y).ct ∧ (stage m' y).fei = (stage m y).fei := by
  subst h
  obtain ⟨ei, _, dr, cx, ax, ra, sh, ct, fei, _, _⟩ :=
    stage_opts_congr m y m.opts { m.opts with RR := false } rfl rfl rfl
  exact ⟨ei rfl, dr rfl, cx rfl, ax rfl, ra rfl, sh rfl, ct rfl, fei⟩

theorem switch_escape_leaves_others (o : Options) (h : o = { m.opts with ESC_AX := false }) :
    let m' : Model ℝ := { m with opts := o }
    (stage m' y).R_ei = (stage m y).R_ei ∧ (stage m' y).R_rr = (stage m y).R_rr ∧ (stage m' y).R_dr = (stage m y).R_dr ∧
    (stage m' y).R_cx = (stage m y).R_cx ∧ (stage m' y).R_ra = (stage m y).R_ra ∧ (stage m' y).sh = (stage m y).sh ∧
    (stage m' y).ct = (stage m y).ct := by
  subst h
  obtain ⟨ei, rr, dr, cx, _, ra, sh, ct, _, _, _⟩ :=
    stage_opts_congr m y m.opts { m.opts with ESC_AX := false } rfl rfl rfl
  exact ⟨ei rfl, rr rfl, dr rfl, cx rfl, ra rfl, sh rfl, ct rfl⟩

/-- switching `DR` off leaves every other stage array (rates, heating terms, overlap factors, trap
parameters, cross sections used, potential) definitionally unchanged -/
theorem switch_DR_leaves_others (o : Options) (h : o = { m.opts with DR := false }) :
    let m' : Model ℝ := { m with opts := o }
    (stage m' y).R_ei = (stage m y).R_ei ∧
    (stage m' y).R_rr = (stage m y).R_rr ∧
    (stage m' y).R_cx = (stage m y).R_cx ∧
    (stage m' y).R_ax = (stage m y).R_ax ∧
    (stage m' y).R_ra = (stage m y).R_ra ∧
    (stage m' y).sh = (stage m y).sh ∧
    (stage m' y).ct = (stage m y).ct ∧
    (stage m' y).fei = (stage m y).fei ∧
    (stage m' y).iheat = (stage m y).iheat ∧
    (stage m' y).e_kin = (stage m y).e_kin ∧
    (stage m' y).fwhm = (stage m y).fwhm ∧
    (stage m' y).w_ax = (stage m y).w_ax ∧
    (stage m' y).w_ra = (stage m y).w_ra ∧
    (stage m' y).ri = (stage m y).ri ∧
    (stage m' y).v_th = (stage m y).v_th ∧
    (stage m' y).xs_ei = (stage m y).xs_ei ∧
    (stage m' y).xs_rr = (stage m y).xs_rr ∧
    (stage m' y).xs_dr = (stage m y).xs_dr ∧
    (stage m' y).phi = (stage m y).phi := by
  subst h
  obtain ⟨ei, rr, _, cx, ax, ra, sh, ct, fei, ih, rest⟩ :=
    stage_opts_congr m y m.opts { m.opts with DR := false } rfl rfl rfl
  exact ⟨ei rfl, rr rfl, cx rfl, ax rfl, ra rfl, sh rfl, ct rfl, fei, ih rfl, rest⟩

/-- switching `CX` off leaves every other stage array (rates, heating terms, overlap factors, trap
parameters, cross sections used, potential) definitionally unchanged -/
theorem switch_CX_leaves_others (o : Options) (h : o = { m.opts with CX := false }) :
    let m' : Model ℝ := { m with opts := o }
    (stage m' y).R_ei = (stage m y).R_ei ∧
    (stage m' y).R_rr = (stage m y).R_rr ∧
    (stage m' y).R_dr = (stage m y).R_dr ∧
    (stage m' y).R_ax = (stage m y).R_ax ∧
    (stage m' y).R_ra = (stage m y).R_ra ∧
    (stage m' y).sh = (stage m y).sh ∧
    (stage m' y).ct = (stage m y).ct ∧
    (stage m' y).fei = (stage m y).fei ∧
    (stage m' y).iheat = (stage m y).iheat ∧
    (stage m' y).e_kin = (stage m y).e_kin ∧
    (stage m' y).fwhm = (stage m y).fwhm ∧
    (stage m' y).w_ax = (stage m y).w_ax ∧
    (stage m' y).w_ra = (stage m y).w_ra ∧
    (stage m' y).ri = (stage m y).ri ∧
    (stage m' y).v_th = (stage m y).v_th ∧
    (stage m' y).xs_ei = (stage m y).xs_ei ∧
    (stage m' y).xs_rr = (stage m y).xs_rr ∧
    (stage m' y).xs_dr = (stage m y).xs_dr ∧
    (stage m' y).phi = (stage m y).phi := by
  subst h
  obtain ⟨ei, rr, dr, _, ax, ra, sh, ct, fei, ih, rest⟩ :=
    stage_opts_congr m y m.opts { m.opts with CX := false } rfl rfl rfl
  exact ⟨ei rfl, rr rfl, dr rfl, ax rfl, ra rfl, sh rfl, ct rfl, fei, ih rfl, rest⟩

/-- switching `SPITZER` off leaves every other stage array (rates, heating terms, overlap factors, trap
parameters, cross sections used, potential) definitionally unchanged -/
theorem switch_SPITZER_leaves_others (o : Options) (h : o = { m.opts with SPITZER := false }) :
    let m' : Model ℝ := { m with opts := o }
    (stage m' y).R_ei = (stage m y).R_ei ∧
    (stage m' y).R_rr = (stage m y).R_rr ∧
    (stage m' y).R_dr = (stage m y).R_dr ∧
    (stage m' y).R_cx = (stage m y).R_cx ∧
    (stage m' y).R_ax = (stage m y).R_ax ∧
    (stage m' y).R_ra = (stage m y).R_ra ∧
    (stage m' y).ct = (stage m y).ct ∧
    (stage m' y).fei = (stage m y).fei ∧
    (stage m' y).iheat = (stage m y).iheat ∧
    (stage m' y).e_kin = (stage m y).e_kin ∧
    (stage m' y).fwhm = (stage m y).fwhm ∧
    (stage m' y).w_ax = (stage m y).w_ax ∧
    (stage m' y).w_ra = (stage m y).w_ra ∧
    (stage m' y).ri = (stage m y).ri ∧
    (stage m' y).v_th = (stage m y).v_th ∧
    (stage m' y).xs_ei = (stage m y).xs_ei ∧
    (stage m' y).xs_rr = (stage m y).xs_rr ∧
    (stage m' y).xs_dr = (stage m y).xs_dr ∧
    (stage m' y).phi = (stage m y).phi := by
  subst h
  obtain ⟨ei, rr, dr, cx, ax, ra, _, ct, fei, ih, rest⟩ :=
    stage_opts_congr m y m.opts { m.opts with SPITZER := false } rfl rfl rfl
  exact ⟨ei rfl, rr rfl, dr rfl, cx rfl, ax rfl, ra rfl, ct rfl, fei, ih rfl, rest⟩

/-- switching `CT` off leaves every other stage array (rates, heating terms, overlap factors, trap
parameters, cross sections used, potential) definitionally unchanged -/
theorem switch_CT_leaves_others (o : Options) (h : o = { m.opts with CT := false }) :
    let m' : Model ℝ := { m with opts := o }
    (stage m' y).R_ei = (stage m y).R_ei ∧
    (stage m' y).R_rr = (stage m y).R_rr ∧
    (stage m' y).R_dr = (stage m y).R_dr ∧
    (stage m' y).R_cx = (stage m y).R_cx ∧
    (stage m' y).R_ax = (stage m y).R_ax ∧
    (stage m' y).R_ra = (stage m y).R_ra ∧
    (stage m' y).sh = (stage m y).sh ∧
    (stage m' y).fei = (stage m y).fei ∧
    (stage m' y).iheat = (stage m y).iheat ∧
    (stage m' y).e_kin = (stage m y).e_kin ∧
    (stage m' y).fwhm = (stage m y).fwhm ∧
    (stage m' y).w_ax = (stage m y).w_ax ∧
    (stage m' y).w_ra = (stage m y).w_ra ∧
    (stage m' y).ri = (stage m y).ri ∧
    (stage m' y).v_th = (stage m y).v_th ∧
    (stage m' y).xs_ei = (stage m y).xs_ei ∧
    (stage m' y).xs_rr = (stage m y).xs_rr ∧
    (stage m' y).xs_dr = (stage m y).xs_dr ∧
    (stage m' y).phi = (stage m y).phi := by
  subst h
  obtain ⟨ei, rr, dr, cx, ax, ra, sh, _, fei, ih, rest⟩ :=
    stage_opts_congr m y m.opts { m.opts with CT := false } rfl rfl rfl
  exact ⟨ei rfl, rr rfl, dr rfl, cx rfl, ax rfl, ra rfl, sh rfl, fei, ih rfl, rest⟩

/-- switching `ESC_RA` off leaves every other stage array (rates, heating terms, overlap factors, trap
parameters, cross sections used, potential) definitionally unchanged -/
theorem switch_ESC_RA_leaves_others (o : Options) (h : o = { m.opts with ESC_RA := false }) :
    let m' : Model ℝ := { m with opts := o }
    (stage m' y).R_ei = (stage m y).R_ei ∧
    (stage m' y).R_rr = (stage m y).R_rr ∧
    (stage m' y).R_dr = (stage m y).R_dr ∧
    (stage m' y).R_cx = (stage m y).R_cx ∧
    (stage m' y).R_ax = (stage m y).R_ax ∧
    (stage m' y).sh = (stage m y).sh ∧
    (stage m' y).ct = (stage m y).ct ∧
    (stage m' y).fei = (stage m y).fei ∧
    (stage m' y).iheat = (stage m y).iheat ∧
    (stage m' y).e_kin = (stage m y).e_kin ∧
    (stage m' y).fwhm = (stage m y).fwhm ∧
    (stage m' y).w_ax = (stage m y).w_ax ∧
    (stage m' y).w_ra = (stage m y).w_ra ∧
    (stage m' y).ri = (stage m y).ri ∧
    (stage m' y).v_th = (stage m y).v_th ∧
    (stage m' y).xs_ei = (stage m y).xs_ei ∧
    (stage m' y).xs_rr = (stage m y).xs_rr ∧
    (stage m' y).xs_dr = (stage m y).xs_dr ∧
    (stage m' y).phi = (stage m y).phi := by
  subst h
  obtain ⟨ei, rr, dr, cx, ax, _, sh, ct, fei, ih, rest⟩ :=
    stage_opts_congr m y m.opts { m.opts with ESC_RA := false } rfl rfl rfl
  exact ⟨ei rfl, rr rfl, dr rfl, cx rfl, ax rfl, sh rfl, ct rfl, fei, ih rfl, rest⟩

/-- switching `IHEAT` off leaves every other stage array (rates, heating terms, overlap factors, trap
parameters, cross sections used, potential) definitionally unchanged -/
theorem switch_IHEAT_leaves_others (o : Options) (h : o = { m.opts with IHEAT := false }) :
    let m' : Model ℝ := { m with opts := o }
    (stage m' y).R_ei = (stage m y).R_ei ∧
    (stage m' y).R_rr = (stage m y).R_rr ∧
    (stage m' y).R_dr = (stage m y).R_dr ∧
    (stage m' y).R_cx = (stage m y).R_cx ∧
    (stage m' y).R_ax = (stage m y).R_ax ∧
    (stage m' y).R_ra = (stage m y).R_ra ∧
    (stage m' y).sh = (stage m y).sh ∧
    (stage m' y).ct = (stage m y).ct ∧
    (stage m' y).fei = (stage m y).fei ∧
    (stage m' y).e_kin = (stage m y).e_kin ∧
    (stage m' y).fwhm = (stage m y).fwhm ∧
    (stage m' y).w_ax = (stage m y).w_ax ∧
    (stage m' y).w_ra = (stage m y).w_ra ∧
    (stage m' y).ri = (stage m y).ri ∧
    (stage m' y).v_th = (stage m y).v_th ∧
    (stage m' y).xs_ei = (stage m y).xs_ei ∧
    (stage m' y).xs_rr = (stage m y).xs_rr ∧
    (stage m' y).xs_dr = (stage m y).xs_dr ∧
    (stage m' y).phi = (stage m y).phi := by
  subst h
  obtain ⟨ei, rr, dr, cx, ax, ra, sh, ct, fei, _, rest⟩ :=
    stage_opts_congr m y m.opts { m.opts with IHEAT := false } rfl rfl rfl
  exact ⟨ei rfl, rr rfl, dr rfl, cx rfl, ax rfl, ra rfl, sh rfl, ct rfl, fei, rest⟩

/-- consequently: switching ionisation off changes the derivative of every non-neutral state by
exactly the ionisation term -/
theorem switch_EI_removes_own_term (k : ℕ) (hk : k ∉ m.lb) (o : Options) (h : o = { m.opts with EI := false }) :
    let m' : Model ℝ := { m with opts := o }
    (rhs m' y).dn k = (rhs m y).dn k - (-at' (stage m y).R_ei k + shiftUp (at' (stage m y).R_ei) k) := by
  intro m'
  obtain ⟨h1, h2, h3, h4, h5, _⟩ := switch_EI_leaves_others m y o h
  -- the ionisation rate of `m'` is the zero function, so its own term and its shift both vanish
  have hz : at' (stage m' y).R_ei = fun _ => 0 := funext fun j => (disabled_is_zero m' y j).1 (congrArg Options.EI h)
  have hs : shiftUp (fun _ => (0 : ℝ)) k = 0 := by simp [shiftUp]
  rw [rhs_is_signed_sum m' y k hk, rhs_is_signed_sum m y k hk, show m'.nq = m.nq from rfl, h1, h2, h3, h4, h5, hz, hs]
  ring

/-! ## the particle balance on the kernel itself -/

theorem rate_zero_of_xs_zero (k : ℕ) :
    (at' (stage m y).xs_ei k = 0 → at' (stage m y).R_ei k = 0) ∧ (at' (stage m y).xs_rr k = 0 → at' (stage m y).R_rr k = 0) ∧
    (at' (stage m y).xs_dr k = 0 → at' (stage m y).R_dr k = 0) := by
  rw [at'_R_ei, at'_R_rr, at'_R_dr]
  refine ⟨fun h => ?_, fun h => ?_, fun h => ?_⟩
  all_goals
    rw [h]
    simp only [zero_mul, ite_self]

/-- what both block balances need at the ends of a block, from the cross-section data the kernel uses -/
theorem kernel_boundary (U : ℕ) (hei : at' (stage m y).xs_ei (U - 1) = 0)
    (hrr : U < m.nq → at' (stage m y).xs_rr U = 0) (hdr : U < m.nq → at' (stage m y).xs_dr U = 0) :
    (stage m y).prates.ei (U - 1) = 0 ∧ (U < m.nq → (stage m y).prates.rr U = 0) ∧ (U < m.nq → (stage m y).prates.dr U = 0) := by
  dsimp only [Stage.prates]
  exact ⟨(rate_zero_of_xs_zero m y (U - 1)).1 hei, fun hlt => (rate_zero_of_xs_zero m y U).2.1 (hrr hlt),
    fun hlt => (rate_zero_of_xs_zero m y U).2.2 (hdr hlt)⟩

/-- **particle balance of one species, stated on the kernel's own output** (`Adv.rhs`, any option set,
any state): for the block `[L, U)` of a target whose bare nucleus has no ionisation cross section and
— when another target follows — whose successor's neutral row has no recombination / charge-exchange
rate, the sum of the ion derivatives is the ionisation of the neutral minus the recombination into
the neutral minus the two escape rates. The hypotheses are facts about the cross-section *data* the
kernel uses (`stage.xs_*`: the precomputed vectors or, with `RECOMPUTE_CROSS_SECTIONS`, the vector
forms of C07–C09), not about the state. -/
theorem kernel_block_balance (L U : ℕ) (h : L + 2 ≤ U) (hU : U ≤ m.nq)
    (hint : ∀ k ∈ Finset.Ico (L + 1) U, k ∉ m.lb)
    (hei : at' (stage m y).xs_ei (U - 1) = 0)
    (hrr : U < m.nq → at' (stage m y).xs_rr U = 0) (hdr : U < m.nq → at' (stage m y).xs_dr U = 0)
    (hcx : U < m.nq → at' (stage m y).R_cx U = 0) :
    ∑ k ∈ Finset.Ico (L + 1) U, (rhs m y).dn k =
      at' (stage m y).R_ei L - (at' (stage m y).R_rr (L + 1) + at' (stage m y).R_dr (L + 1) + at' (stage m y).R_cx (L + 1))
        - ∑ k ∈ Finset.Ico (L + 1) U, (at' (stage m y).R_ax k + at' (stage m y).R_ra k) := by
  obtain ⟨a, b, c⟩ := kernel_boundary m y U hei hrr hdr
  have hb := C03.dn_balance m.nq m.lb (stage m y).prates L U h hU hint a b c hcx
  dsimp only [Stage.prates] at hb
  exact hb

/-- **thermal-energy balance of one species, stated on the kernel's own output**: same data hypotheses
as `kernel_block_balance`, non-zero raw densities in the block. `T` is the clamped temperature the
kernel uses, `n_r` the raw density; all terms are entries of the kernel's reported arrays. -/
theorem kernel_energy_balance (L U : ℕ) (h : L + 2 ≤ U) (hU : U ≤ m.nq)
    (hint : ∀ k ∈ Finset.Ico (L + 1) U, k ∉ m.lb) (hn : ∀ k ∈ Finset.Ico (L + 1) U, at' (stage m y).n_r k ≠ 0)
    (hei : at' (stage m y).xs_ei (U - 1) = 0)
    (hrr : U < m.nq → at' (stage m y).xs_rr U = 0) (hdr : U < m.nq → at' (stage m y).xs_dr U = 0)
    (hcx : U < m.nq → at' (stage m y).R_cx U = 0) :
    let S := stage m y
    let T := S.tin m
    let P := S.prates
    ∑ k ∈ Finset.Ico (L + 1) U, (T.kT k * (rhs m y).dn k + T.n_r k * (rhs m y).dkT k) =
      P.ei L * T.kT L - (P.rr (L + 1) + P.dr (L + 1) + P.cx (L + 1)) * T.kT (L + 1)
      + ∑ k ∈ Finset.Ico (L + 1) U, T.ih (k - 1) * P.ei (k - 1)
      - ∑ k ∈ Finset.Ico (L + 1) U, T.ih (k + 1) * (C04.cut m.nq P.rr (k + 1) + C04.cut m.nq P.dr (k + 1) + C04.cut m.nq P.cx (k + 1))
      + ∑ k ∈ Finset.Ico (L + 1) U, T.n_r k * (T.sh k + T.ct k)
      - ∑ k ∈ Finset.Ico (L + 1) U, T.kT k * (P.ax k + P.ra k)
      - ∑ k ∈ Finset.Ico (L + 1) U, T.n_r k * (Adv.axCool T k + Adv.raCool T k) := by
  intro S T P
  obtain ⟨a, b, c⟩ := kernel_boundary m y U hei hrr hdr
  exact C04.thermal_energy_balance m.nq m.lb T P L U rfl h hU hint hn a b c hcx

/-! ## overlap factors and ionisation heating: documented radial integrals, range, sign -/

theorem sumA_ofFn (n : ℕ) (t : ℕ → ℝ) :
    sumA (Array.ofFn (n := n) fun i => t i.val) = ∑ i ∈ Finset.range n, t i := by
  unfold sumA
  rw [← Array.foldl_toList, Array.toList_ofFn, lit_real, Nat.cast_zero, ← List.sum_eq_foldl, List.sum_ofFn,
    Fin.sum_univ_eq_sum_range]

/-- the trapezoid rule on the first `m` nodes as a finite sum -/
theorem trapzA_eq_sum (yv x : Array ℝ) (mm : ℕ) :
    trapzA yv x mm = ∑ i ∈ Finset.range (mm - 1), (at' x (i + 1) - at' x i) * (at' yv (i + 1) + at' yv i) / 2 := by
  unfold trapzA
  rw [sumA_ofFn (mm - 1) fun i => (at' x (i + 1) - at' x i) * (at' yv (i + 1) + at' yv i) / (2.0 : ℝ)]
  apply Finset.sum_congr rfl
  intro i _; norm_num

theorem trapzA_term_nonneg (yv x : Array ℝ) (mm : ℕ) (hy : ∀ i, 0 ≤ at' yv i) (hx : ∀ i, i + 1 < mm → at' x i ≤ at' x (i + 1)) :
    ∀ i ∈ Finset.range (mm - 1), 0 ≤ (at' x (i + 1) - at' x i) * (at' yv (i + 1) + at' yv i) / 2 := fun i hi =>
  have hi' : i + 1 < mm := by have := Finset.mem_range.mp hi; omega
  div_nonneg (mul_nonneg (sub_nonneg.mpr (hx i hi')) (add_nonneg (hy _) (hy _))) (by norm_num)

/-- a non-negative integrand on a non-decreasing grid: the integral over the first `m₁` nodes is non-negative and not
larger than the integral over the first `m₂ ≥ m₁` nodes -/
theorem trapzA_mono (yv x : Array ℝ) (m1 m2 : ℕ) (h12 : m1 ≤ m2) (hy : ∀ i, 0 ≤ at' yv i)
    (hx : ∀ i, i + 1 < m2 → at' x i ≤ at' x (i + 1)) :
    0 ≤ trapzA yv x m1 ∧ trapzA yv x m1 ≤ trapzA yv x m2 := by
  rw [trapzA_eq_sum, trapzA_eq_sum]
  have hterm := trapzA_term_nonneg yv x m2 hy hx
  have hsub : Finset.range (m1 - 1) ⊆ Finset.range (m2 - 1) := Finset.range_subset_range.mpr (by omega)
  exact ⟨Finset.sum_nonneg fun i hi => hterm i (hsub hi), Finset.sum_le_sum_of_subset_of_nonneg hsub fun i hi _ => hterm i hi⟩

theorem trapzA_nonneg (yv x : Array ℝ) (mm : ℕ) (hy : ∀ i, 0 ≤ at' yv i) (hx : ∀ i, i + 1 < mm → at' x i ≤ at' x (i + 1)) :
    0 ≤ trapzA yv x mm :=
  (trapzA_mono yv x mm mm le_rfl hy hx).1

/-- **the beam overlap factor is the documented ratio of radial integrals**: `∫₀^{r_e} r s dr / ∫₀^{r_dt} r s dr` (trapezoid rule on the
device grid) of the Boltzmann shape `s = exp(−q (φ − φ_min)/kT)` of the state -/
theorem fei_formula (k : ℕ) (hk : k < m.nq) :
    at' (stage m y).fei k =
      trapzA (Array.ofFn (n := m.r.size) fun g =>
          at' (Array.ofFn (n := m.r.size) fun g' => Real.exp (-(at' m.q k) * (at' (stage m y).phi g'.val - minA (stage m y).phi) / at' (stage m y).kT k)) g.val
            * at' m.r g.val) m.r (m.ix + 1)
      / trapzA (Array.ofFn (n := m.r.size) fun g =>
          at' (Array.ofFn (n := m.r.size) fun g' => Real.exp (-(at' m.q k) * (at' (stage m y).phi g'.val - minA (stage m y).phi) / at' (stage m y).kT k)) g.val
            * at' m.r g.val) m.r m.r.size :=
  at'_rows (· / ·) hk

/-- **beam overlap factors lie in `[0, 1]`** on every non-negative, non-decreasing grid whose beam-edge index lies on the grid — for
every state, potential and temperature (no positivity of the denominator is needed: the integrand is non-negative) -/
theorem fei_unit_interval (k : ℕ) (hk : k < m.nq) (hr0 : ∀ i, 0 ≤ at' m.r i)
    (hmono : ∀ i, i + 1 < m.r.size → at' m.r i ≤ at' m.r (i + 1)) (hix : m.ix + 1 ≤ m.r.size) :
    0 ≤ at' (stage m y).fei k ∧ at' (stage m y).fei k ≤ 1 := by
  rw [fei_formula m y k hk]
  obtain ⟨h0, h1⟩ := trapzA_mono _ m.r (m.ix + 1) m.r.size hix (rshape_nonneg m k _ hr0) hmono
  exact ⟨div_nonneg h0 (h0.trans h1), div_le_one_of_le₀ h1 (h0.trans h1)⟩

/-- `phi.min()` is a lower bound of every node value -/
theorem minA_le (v : Array ℝ) (i : ℕ) (hi : i < v.size) : minA v ≤ at' v i := by
  unfold minA
  rw [← Array.foldl_toList, at'_eq_getElem v i hi]
  exact foldl_min_le min'_real _ _ _ (List.mem_cons_of_mem _ (Array.getElem_mem_toList hi))

/-- **ionisation heating** is `2/3` of the mean potential energy (above the potential minimum) of the state's ions inside the beam,
`⅔ ∫₀^{r_e} r s (φ − φ_min) dr / ∫₀^{r_e} r s dr`, and it is never negative -/
theorem iheat_nonneg (k : ℕ) (hk : k < m.nq) (hr0 : ∀ i, 0 ≤ at' m.r i) (hphi : (stage m y).phi.size = m.r.size)
    (hmono : ∀ i, i + 1 < m.ix + 1 → at' m.r i ≤ at' m.r (i + 1)) :
    0 ≤ at' (stage m y).iheat k := by
  rw [at'_iheat m y k hk]
  have hw := rshape_nonneg m k (stage m y) hr0
  refine ite_nonneg (div_nonneg (mul_nonneg (by norm_num) (trapzA_nonneg _ m.r _ ?_ hmono)) (trapzA_nonneg _ m.r _ hw hmono)) le_rfl
  -- the integrand of the numerator: `φ ≥ φ_min` at every node
  exact at'_ofFn_nonneg fun g => mul_nonneg (hw _) (sub_nonneg.mpr (minA_le _ _ (by rw [hphi]; exact g.2)))

theorem trapzA_pos (yv x : Array ℝ) (mm : ℕ) (hm : 2 ≤ mm) (hy : ∀ i, 0 ≤ at' yv i) (hy1 : 0 < at' yv 1)
    (hx : ∀ i, i + 1 < mm → at' x i ≤ at' x (i + 1)) (hx01 : at' x 0 < at' x 1) : 0 < trapzA yv x mm := by
  rw [trapzA_eq_sum]
  have hfirst : 0 < (at' x (0 + 1) - at' x 0) * (at' yv (0 + 1) + at' yv 0) / 2 :=
    div_pos (mul_pos (sub_pos.mpr hx01) (add_pos_of_pos_of_nonneg hy1 (hy 0))) (by norm_num)
  -- the first trapezoid alone is positive, the others are non-negative
  exact hfirst.trans_le (Finset.single_le_sum (trapzA_term_nonneg yv x mm hy hx) (Finset.mem_range.mpr (by omega)))

/-- **the radial integrals the kernel divides by are positive** — `∫₀^{r_dt} r s dr` (denominator of the on-axis density, the ion-cloud
radius and the overlap factor) and `∫₀^{r_e} r s dr` (denominator of the ionisation heating) — for every state, potential and temperature,
on every grid that is non-negative, non-decreasing, strictly increasing at its first step, with the beam edge at node `ix ≥ 1`: the
Boltzmann shape `exp(−q(φ−φ_min)/kT)` is strictly positive, whatever its argument. (Over ℝ; in binary64 the shape can underflow to 0 when
`kT < q Δφ₁/500`, the limit the property itself names.) -/
theorem overlap_denominators_pos (k : ℕ) (hr0 : ∀ i, 0 ≤ at' m.r i)
    (hmono : ∀ i, i + 1 < m.r.size → at' m.r i ≤ at' m.r (i + 1)) (h01 : at' m.r 0 < at' m.r 1)
    (hix : 1 ≤ m.ix) (hixs : m.ix + 1 ≤ m.r.size) :
    let S : Array ℝ := Array.ofFn (n := m.r.size) fun g' =>
      Real.exp (-(at' m.q k) * (at' (stage m y).phi g'.val - minA (stage m y).phi) / at' (stage m y).kT k)
    let Y : Array ℝ := Array.ofFn (n := m.r.size) fun g => at' S g.val * at' m.r g.val
    0 < trapzA Y m.r (m.ix + 1) ∧ 0 < trapzA Y m.r m.r.size := by
  intro S Y
  have hy : ∀ i, 0 ≤ at' Y i := rshape_nonneg m k (stage m y) hr0
  have hy1 : 0 < at' Y 1 := by
    rw [at'_ofFn, dif_pos (by omega), at'_ofFn, dif_pos (by omega)]
    exact mul_pos (Real.exp_pos _) ((hr0 0).trans_lt h01)
  exact ⟨trapzA_pos Y m.r (m.ix + 1) (by omega) hy hy1 (fun i hi => hmono i (by omega)) h01,
         trapzA_pos Y m.r m.r.size (by omega) hy hy1 hmono h01⟩

/-- **mean beam energy and energy spread**: the space-charge corrected energy is `E + ⟨φ⟩`, `⟨φ⟩ = (2/r_e²) ∫₀^{r_e} φ r dr` the beam-area
average of the potential (trapezoid rule up to the beam-edge node); the spread is the device's value when `OVERRIDE_FWHM` is set and otherwise
`2.355 · sqrt(⟨(φ − ⟨φ⟩)²⟩)`, the FWHM of a Gaussian with the variance of the potential over the beam area -/
theorem beam_energy_and_spread :
    (stage m y).e_kin = m.e_kin + 2 * trapzA (Array.ofFn (n := m.r.size) fun g => at' m.r g.val * at' (stage m y).phi g.val) m.r (m.ix + 1) / m.r_e ^ 2 ∧
    (stage m y).fwhm = (if m.opts.OVERRIDE_FWHM then m.fwhm else
      2.355 * Real.sqrt (2 * trapzA (Array.ofFn (n := m.r.size) fun g =>
        at' m.r g.val * (at' (stage m y).phi g.val - ((stage m y).e_kin - m.e_kin)) ^ 2) m.r (m.ix + 1) / m.r_e ^ 2)) := by
  have e1 : (stage m y).e_kin = m.e_kin + lit 2 * trapzA (Array.ofFn (n := m.r.size) fun g => at' m.r g.val * at' (stage m y).phi g.val) m.r (m.ix + 1) / powN m.r_e 2 := rfl
  have e2 : (stage m y).fwhm = (if m.opts.OVERRIDE_FWHM then m.fwhm else
      (2.355 : ℝ) * Transc.sqrt (lit 2 * trapzA (Array.ofFn (n := m.r.size) fun g =>
        at' m.r g.val * powN (at' (stage m y).phi g.val - (lit 2 * trapzA (Array.ofFn (n := m.r.size) fun g => at' m.r g.val * at' (stage m y).phi g.val) m.r (m.ix + 1) / powN m.r_e 2)) 2) m.r (m.ix + 1) / powN m.r_e 2)) := rfl
  refine ⟨by rw [e1]; simp only [lit_real, powN_real, Nat.cast_ofNat], ?_⟩
  rw [e2, e1]
  simp only [lit_real, powN_real, Transc.sqrt_real, Nat.cast_ofNat, add_sub_cancel_left]

/-- the variance under the square root is never negative on a non-negative, non-decreasing grid: the computed spread is a real number ≥ 0 -/
theorem spread_variance_nonneg (c : ℝ) (hr0 : ∀ i, 0 ≤ at' m.r i) (hmono : ∀ i, i + 1 < m.ix + 1 → at' m.r i ≤ at' m.r (i + 1)) :
    0 ≤ trapzA (Array.ofFn (n := m.r.size) fun g => at' m.r g.val * (at' (stage m y).phi g.val - c) ^ 2) m.r (m.ix + 1) :=
  trapzA_nonneg _ m.r (m.ix + 1) (at'_ofFn_nonneg fun _ => mul_nonneg (hr0 _) (sq_nonneg _)) hmono

/-- **the ionisation and recombination rates are non-negative** for every state with non-negative densities, whenever the cross sections used
are non-negative (C07–C09 for the package's vectors) and the current density is: `σ ≥ 0`, smoothed density `≥ 0`, flux `≥ 0`, overlap factor
in `[0, 1]`. This discharges the sign hypothesis of `C03.empty_gains` for these three processes. -/
theorem reaction_rates_nonneg (k : ℕ) (hj : 0 ≤ m.j) (hy : 0 ≤ at' y k)
    (hr0 : ∀ i, 0 ≤ at' m.r i) (hmono : ∀ i, i + 1 < m.r.size → at' m.r i ≤ at' m.r (i + 1)) (hix : m.ix + 1 ≤ m.r.size)
    (hei : 0 ≤ at' (stage m y).xs_ei k) (hrr : 0 ≤ at' (stage m y).xs_rr k) (hdr : 0 ≤ at' (stage m y).xs_dr k) :
    0 ≤ at' (stage m y).R_ei k ∧ 0 ≤ at' (stage m y).R_rr k ∧ 0 ≤ at' (stage m y).R_dr k := by
  -- one rate, for any switch `b` and cross section `σ`. The product is taken apart by hand: with sign facts about
  -- several fields of `stage m y` in context `positivity` compares those fields with each other, which unfolds `stage`
  have key : ∀ (b : Bool) (σ : ℝ), 0 ≤ σ →
      0 ≤ if b = true ∧ k < m.nq then σ * at' (stage m y).n k * (stage m y).je * at' (stage m y).fei k else 0 := by
    intro b σ hσ
    split_ifs with h
    · have hn : 0 ≤ at' (stage m y).n k := by
        rw [at'_n, if_pos h.2]
        exact C03.smooth_nonneg _ hy
      have hje : 0 ≤ (stage m y).je := by
        rw [je_formula]
        exact mul_nonneg (div_nonneg hj Const.Q_E_pos.le) (by norm_num)
      exact mul_nonneg (mul_nonneg (mul_nonneg hσ hn) hje) (fei_unit_interval m y k h.2 hr0 hmono hix).1
    · exact le_rfl
  rw [at'_R_ei, at'_R_rr, at'_R_dr]
  exact ⟨key _ _ hei, key _ _ hrr, key _ _ hdr⟩

end C05
