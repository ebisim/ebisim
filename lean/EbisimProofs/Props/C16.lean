import EbisimProofs.Lemmas.Chunks

/-! # C16 — independence of thread count: the bookkeeping part

For all `n_cols` and all `n_threads ≥ 1` (no bound): the chunks are a partition of the columns
into at most `n_threads` contiguous non-empty pieces whose sizes differ by at most one, and the
threaded block evaluation equals the state-by-state evaluation for every right-hand side `f`.
Real thread / process interleavings are outside the model (monitored bit-exactly). Core Lean only. -/
namespace C16
open Chunks

/-- columns covered by a list of chunks, in order -/
def cover (l : List (Nat × Nat)) : List Nat := l.flatMap fun ab => List.range' ab.1 (ab.2 - ab.1)

/-- **the chunks cover columns `0 … n-1` exactly once, in order** -/
theorem cover_indices (n t : Nat) (ht : 0 < t) : cover (indices n t) = List.range n := by
  have h := flatMap_go (fun a n => List.range' a n) (fun _ => rfl) (fun _ _ _ => List.range'_append_1.symm) 0 (lens n t)
  rw [sum_lens n t ht, ← List.range_eq_range'] at h
  exact h

theorem go_nonempty (s : Nat) (cs : List Nat) : ∀ ab ∈ go s cs, ab.1 < ab.2 := by
  intro ab h
  obtain ⟨c, _, hc, e⟩ := mem_go s cs ab h
  omega

/-- **every chunk is non-empty** -/
theorem indices_nonempty (n t : Nat) : ∀ ab ∈ indices n t, ab.1 < ab.2 := go_nonempty 0 _

/-- **at most `n_threads` chunks** -/
theorem indices_length (n t : Nat) : (indices n t).length ≤ t := by
  simpa [indices, lens] using go_length_le 0 (lens n t)

/-- **chunk sizes differ by at most one**: each is `⌊n/t⌋` or `⌊n/t⌋+1` -/
theorem indices_sizes (n t : Nat) : ∀ ab ∈ indices n t,
    ab.2 - ab.1 = n / t ∨ ab.2 - ab.1 = n / t + 1 := by
  intro ab h
  obtain ⟨c, hc, _, e⟩ := mem_go _ _ ab h
  obtain ⟨k, _, rfl⟩ := List.mem_map.1 hc
  rw [e, Nat.add_sub_cancel_left, len]
  split
  · exact Or.inr rfl
  · exact Or.inl rfl

/-- chunks form a contiguous chain starting at `s` -/
def Contig : Nat → List (Nat × Nat) → Prop
  | _, [] => True
  | s, ab :: rest => ab.1 = s ∧ Contig ab.2 rest

theorem go_contig (s : Nat) (cs : List Nat) : Contig s (go s cs) := by
  induction cs generalizing s with
  | nil => simp [go, Contig]
  | cons c cs ih =>
    simp only [go]; split
    · exact ⟨rfl, ih _⟩
    · have : c = 0 := by omega
      subst this; simpa using ih s

/-- **chunks are contiguous**: the first starts at column 0 and each starts where the previous ends -/
theorem indices_contiguous (n t : Nat) : Contig 0 (indices n t) := go_contig 0 _

/-- **block evaluation by any number of threads equals state-by-state evaluation**, for every
right-hand side `f`, every block and every `n_threads ≥ 1` -/
theorem threaded_eq_sequential {β γ : Type} (f : β → γ) (cols : List β) (t : Nat) (ht : 0 < t) :
    threaded f cols t = cols.map f := by
  have h := flatMap_go (fun a n => ((cols.drop a).take n).map f) (fun _ => rfl)
    (fun a m n => by rw [List.take_add, List.map_append, List.drop_drop]) 0 (lens cols.length t)
  rw [sum_lens _ _ ht, List.drop_zero, List.take_length] at h
  exact h

/-- consequently the result does not depend on the thread count -/
theorem thread_count_irrelevant {β γ : Type} (f : β → γ) (cols : List β) (t t' : Nat) (ht : 0 < t) (ht' : 0 < t') :
    threaded f cols t = threaded f cols t' := by
  rw [threaded_eq_sequential f cols t ht, threaded_eq_sequential f cols t' ht']

/-- an energy scan run through an order-preserving pool `map` equals the sequential loop
(`pool.map = List.map` is the assumed contract of `multiprocessing.Pool.map`) -/
theorem scan_parallel_eq_sequential {β γ : Type} (sim : β → γ) (energies : List β)
    (poolMap : (β → γ) → List β → List γ) (hpool : ∀ g l, poolMap g l = l.map g) :
    poolMap sim energies = energies.map sim := hpool sim energies

-- non-vacuity: 10 columns on 4 threads; 3 columns on 8 threads (fewer chunks than threads)
example : indices 10 4 = [(0, 3), (3, 6), (6, 8), (8, 10)] := by decide
example : indices 3 8 = [(0, 1), (1, 2), (2, 3)] := by decide

end C16
