import EbisimProofs.Lemmas.Lotz
import EbisimProofs.Props.C11

/-! # C07 — ionisation cross sections follow the Lotz formula with exact thresholds

Model: `Xs.lotzEntry/coefOf` (hand model of `lookup_lotz_factors`), `Xs.lotzTerm` (Lotz × Gryzinski),
`Xs.shellSum/eixsRows/eixsVec` (hand model of `eixs_vec`, bit-identical to the compiled kernel on
all 105 elements), over the tables regenerated from the source on every run. -/
namespace C07
open Xs Num Gen

/-! ## the coefficient lookup rule -/

/-- heavier elements, charged states: no tabulated coefficients — `a = 4.5e-18 m² eV²`, `b = c = 0` -/
theorem lotz_rule_heavy_ion (Z cs i : ℕ) (n l sg : ℕ) (hs : shellOrderS[i]? = some (n, l, sg))
    (hZ : 20 < Z) (hcs : cs ≠ 0) : lotzEntry Z cs i = .outside := by
  simp [lotzEntry, hs, hZ, hcs]

/-- Z ≤ 20, tabulated charge state: the element-specific triple of the shell stub, or the default -/
theorem lotz_rule_light (Z cs i : ℕ) (n l sg : ℕ) (hs : shellOrderS[i]? = some (n, l, sg)) (hZ : ¬ 20 < Z)
    (tab : List (ℕ × List ((ℕ × ℕ) × Tri))) (htab : lookupK Z lotzAdvancedS = some tab)
    (hcs : cs < tab.length) (d : List ((ℕ × ℕ) × Tri)) (hd : lookupK cs tab = some d) :
    lotzEntry Z cs i = (match lookupK (n, l) d with | some t => .tab t | none => .dflt) := by
  cases h : lookupK (n, l) d <;> simp [lotzEntry, hs, hZ, htab, hcs, hd, h]

/-- Z ≤ 20 beyond the tabulated charge states: default coefficients -/
theorem lotz_rule_light_outside (Z cs i : ℕ) (n l sg : ℕ) (hs : shellOrderS[i]? = some (n, l, sg)) (hZ : ¬ 20 < Z)
    (tab : List (ℕ × List ((ℕ × ℕ) × Tri))) (htab : lookupK Z lotzAdvancedS = some tab)
    (hcs : ¬ cs < tab.length) : lotzEntry Z cs i = .outside := by
  simp [lotzEntry, hs, hZ, htab, hcs]

/-- index of the `±` partner sub-shell (`i2` of `lookup_lotz_factors`); `some none` = no partner,
`none` = ValueError -/
def partnerOf (s : ℕ × ℕ × ℕ) : Option (Option ℕ) :=
  if s.2.1 = 0 then some none
  else if s.2.2 = 1 then (if s.1 = 7 ∧ s.2.1 = 1 then some none else (idxOfK (s.1, s.2.1, 2) shellOrderS 0).map some)
  else if s.2.2 = 2 then (idxOfK (s.1, s.2.1, 1) shellOrderS 0).map some
  else none

/-- `n_e` of `lookup_lotz_factors`: electrons of sub-shell `i` and of its partner in the neutral
configuration `row0`. `i2 ≠ 0` is the source's truth test `if i2 and i2 < cols`; index 0 is `1s`, nobody's partner. -/
def jointOcc (row0 : List ℕ) (i : ℕ) (pi : Option ℕ) : ℕ :=
  row0.getD i 0 + match pi with
    | some i2 => if i2 ≠ 0 ∧ i2 < row0.length then row0.getD i2 0 else 0
    | none => 0

/-- `_LOTZ_NEUTRAL_TABLE[nstr + lc + str(n_e)]` for sub-shell `s = (n, l, ±)`, or zeros when `n_e = 0`; `nstr = "n"` is keyed as 0 -/
def neutralOf (s : ℕ × ℕ × ℕ) (ne : ℕ) : LotzRes :=
  if ne = 0 then .zero else
  match lookupK (if ((s.2.1 = 0 ∨ s.2.1 = 1) ∧ s.1 > 3) ∨ (s.2.1 = 2 ∧ s.1 > 4) ∨ s.2.1 = 3 then 0 else s.1, s.2.1, ne) lotzNeutralS with
  | some t => .tab t
  | none => .keyError

/-- heavier elements, neutral atom: the neutral-atom dictionary under the key built from the class of
the principal quantum number, the angular momentum and the joint occupation of the `±` partners -/
theorem lotz_rule_heavy_neutral (Z i : ℕ) (s : ℕ × ℕ × ℕ) (hs : shellOrderS[i]? = some s) (hZ : 20 < Z) :
    lotzEntry Z 0 i = match partnerOf s with
      | none => .keyError
      | some pi => neutralOf s (jointOcc ((cfg Z).headD []) i pi) := by
  obtain ⟨n, l, sg⟩ := s
  simp only [lotzEntry, hs, hZ, partnerOf, neutralOf, jointOcc, if_true, ne_eq, not_true_eq_false, if_false]
  rfl

/-- the default branch of the kernel and the default array entry are the same numbers:
`a = 4.5e-18`, `b = c = 0` -/
theorem default_coefficients :
    (coefOf LotzRes.dflt : Option (ℝ × ℝ × ℝ)) = some (4.5e-18, 0, 0) ∧
    (∀ (E e : ℝ) (n : ℕ), lotzTerm E n e (none : Option (ℝ × ℝ × ℝ)) = lotzTerm E n e (some (4.5e-18, 0, 0))) := by
  constructor
  · simp only [coefOf, lit_real, Nat.cast_zero]; norm_num
  · exact fun E e n => lotzTerm_none E e n

/-! ## table facts

The shell tables themselves are walked once, by `C11.tables_checked`: occupied ⇔ bound, occupations
within the sub-shell capacities, a lowest binding energy in every row. What the coefficient lookup
adds is decided here (`decide +kernel`): for a heavy ion nothing is looked up (`lotz_rule_heavy_ion`); for a heavy
neutral atom the dictionary has an admissible entry for every occupation the capacities allow
(`neutral_dict_ok`); the 210 rows of `Z ≤ 20` are evaluated one by one (`tables_ok`). -/

/-- `0 < a` and `b < 1` on the scaled table entries (`b = t.2.1 / 2 ^ scCoef`); `zero` is not admissible for an occupied sub-shell -/
def coefOkB : LotzRes → Bool
  | .tab t => Nat.blt 0 t.1 && Nat.blt t.2.1 (2 ^ scCoef)
  | .zero => false
  | .dflt => true
  | .outside => true
  | .keyError => false

def entryOkB (n : ℕ) (r : LotzRes) : Bool := r != .keyError && (n == 0 || coefOkB r)

theorem coefOkB_sound (r : LotzRes) (h : coefOkB r = true) : CoefOk (coefOf r : Option (ℝ × ℝ × ℝ)) := by
  cases r with
  | tab t =>
    simp only [coefOkB, Bool.and_eq_true, Nat.blt_eq] at h
    simp only [coefOf, CoefOk]
    refine ⟨?_, ofScaled_nonneg _ _, ?_, ofScaled_nonneg _ _⟩
    · have := ofScaled_pos t.1 scCoef h.1
      have h18 : (0 : ℝ) < 1.0e-18 := by norm_num
      positivity
    · rw [ofScaled_real, div_lt_one (by positivity)]
      exact_mod_cast h.2
  | zero => simp [coefOkB] at h
  | dflt => simp only [coefOf, CoefOk, lit_real, Nat.cast_zero]; norm_num
  | outside => simp [coefOf, CoefOk]
  | keyError => simp [coefOkB] at h

theorem entryOkB_iff {n : ℕ} {r : LotzRes} : entryOkB n r = true ↔ r ≠ .keyError ∧ (n = 0 ∨ coefOkB r = true) := by
  simp only [entryOkB, Bool.and_eq_true, Bool.or_eq_true, beq_iff_eq, bne_iff_ne]

theorem entryOkB_anti {n n' : ℕ} {r : LotzRes} (hn : n ≤ n') (h : entryOkB n' r = true) : entryOkB n r = true := by
  rw [entryOkB_iff] at h ⊢
  exact ⟨h.1, h.2.imp_left fun h0 => by omega⟩

/-- the `±` pair of sub-shells with angular momentum `l` holds `2 (2l + 1)` electrons -/
def jointCap (l : ℕ) : ℕ := 4 * l + 2

/-- Decided for the 30 sub-shells and every joint occupation that `C11.caps` allows a `±` pair, not for the configurations of the 85
heavy elements: `neutralOf_ok` brings every row within the capacities under it. -/
theorem neutral_dict_ok : ∀ p ∈ shellOrderS.zipIdx, ∃ pi, partnerOf p.1 = some pi ∧
    C11.caps.getD p.2 0 + (match pi with | some i2 => C11.caps.getD i2 0 | none => 0) ≤ jointCap p.1.2.1 ∧
    ∀ ne ∈ List.range (jointCap p.1.2.1 + 1), entryOkB ne (neutralOf p.1 ne) = true := by decide +kernel

theorem neutralOf_ok (row0 : List ℕ) (hcap : C11.capOk row0 C11.caps = true) (i : ℕ) (hi : i < row0.length) :
    ∃ (h : i < shellOrderS.length) (pi : Option ℕ), partnerOf shellOrderS[i] = some pi ∧
      entryOkB (row0.getD i 0) (neutralOf shellOrderS[i] (jointOcc row0 i pi)) = true := by
  obtain ⟨hlen, hle⟩ := (C11.capOk_iff _ _).mp hcap
  have hi30 : i < shellOrderS.length := lt_of_lt_of_le hi hlen
  obtain ⟨pi, hp, hcapj, hdict⟩ :=
    neutral_dict_ok (shellOrderS[i], i) (List.mem_zipIdx_iff_getElem?.mpr (by simp [hi30]))
  dsimp only at hp hcapj hdict
  have hne : jointOcc row0 i pi ≤ jointCap shellOrderS[i].2.1 := by
    refine le_trans (Nat.add_le_add (hle i) ?_) hcapj
    cases pi with
    | none => exact le_rfl
    | some i2 =>
      dsimp only
      split_ifs
      · exact hle i2
      · exact Nat.zero_le _
  exact ⟨hi30, pi, hp, entryOkB_anti (Nat.le_add_right _ _) (hdict _ (List.mem_range.mpr (Nat.lt_succ_of_le hne)))⟩

theorem tables_ok : ∀ Z ∈ List.range' 1 20, ∀ cs ∈ List.range Z, ∀ p ∈ ((cfg Z).getD cs []).zipIdx,
    entryOkB p.1 (lotzEntry Z cs p.2) = true := by decide +kernel

/-- every lookup `lookup_lotz_factors` and `eixs_vec` perform, for every element, charge state and
sub-shell of the tables: what `entryOkB` evaluates (`entryOkB_iff`) -/
theorem entryOk (Z cs k : ℕ) (hZ1 : 1 ≤ Z) (hZ : Z ≤ 105) (hcs : cs < Z) (h1 : cs < (cfg Z).length)
    (hk : k < (cfg Z)[cs].length) :
    lotzEntry Z cs k ≠ .keyError ∧ ((cfg Z)[cs].getD k 0 = 0 ∨ coefOkB (lotzEntry Z cs k) = true) := by
  obtain ⟨_, _, _, _, hrow⟩ := C11.shell_rows Z cs hZ1 hZ hcs
  have hcap := hrow.capOk
  by_cases h20 : 20 < Z
  · by_cases h0 : cs = 0
    · subst h0
      have e : (cfg Z).headD [] = (cfg Z)[0] := by
        rw [List.headD_eq_head?_getD, List.head?_eq_getElem?, List.getElem?_eq_getElem h1]; rfl
      obtain ⟨h30, pi, hp, hok⟩ := neutralOf_ok _ hcap k hk
      rw [lotz_rule_heavy_neutral Z k _ (List.getElem?_eq_getElem h30) h20, hp, e]
      exact entryOkB_iff.mp hok
    · have h30 : k < shellOrderS.length := lt_of_lt_of_le hk ((C11.capOk_iff _ _).mp hcap).1
      rw [lotz_rule_heavy_ion Z cs k _ _ _ (List.getElem?_eq_getElem h30) h20 h0]
      exact ⟨nofun, Or.inr rfl⟩
  · exact entryOkB_iff.mp (tables_ok Z (List.mem_range'_1.mpr (by omega)) cs (List.mem_range.mpr hcs) ((cfg Z)[cs].getD k 0, k)
      (List.mem_zipIdx_iff_getElem?.mpr (by simp [h1, hk])))

/-- **no KeyError**: the lookup succeeds for every sub-shell of every tabulated charge state -/
theorem lotzEntry_ne_keyError (Z cs k : ℕ) (hZ1 : 1 ≤ Z) (hZ : Z ≤ 105) (hcs : cs < Z) (h1 : cs < (cfg Z).length)
    (hk : k < (cfg Z)[cs].length) : lotzEntry Z cs k ≠ .keyError :=
  (entryOk Z cs k hZ1 hZ hcs h1 hk).1

/-- **table facts, all 105 elements × all charge states × all sub-shells**: one row per charge
state `0…Z-1` in both tables; an occupied sub-shell has a positive binding energy and a coefficient
with `0 < a`, `0 ≤ b < 1`, `0 ≤ c`; no lookup raises -/
theorem lotz_table_facts (Z cs : ℕ) (hZ1 : 1 ≤ Z) (hZ : Z ≤ 105) (hcs : cs < Z) :
    ∃ (h1 : cs < (cfg Z).length) (h2 : cs < (ebind Z).length),
      RowOk (fun s => coefOf (lotzEntry Z cs s)) (cfg Z)[cs] (ebind Z)[cs] 0 := by
  obtain ⟨_, _, h1, h2, hrow⟩ := C11.shell_rows Z cs hZ1 hZ hcs
  obtain ⟨hl, hocc⟩ := (C11.occBoundB_iff _ _).mp hrow.occBound
  refine ⟨h1, h2, (rowOk_iff _ _ _ 0 hl).mpr fun k hn => ⟨(hocc k).mp hn, ?_⟩⟩
  -- an occupied position lies inside the row, where `entryOk` speaks
  have hk : k < (cfg Z)[cs].length := lt_of_not_ge fun hge => by simp [List.getD_eq_getElem?_getD, hge] at hn
  rw [Nat.zero_add]
  exact coefOkB_sound _ ((entryOk Z cs k hZ1 hZ hcs h1 hk).2.resolve_left (by omega))

/-! ## non-negative; zero up to the smallest binding energy and for the bare nucleus; positive above -/

theorem eixsRows_eq_map (E : ℝ) (Z : ℕ) : ∀ (C B : List (List ℕ)) (q : ℕ), eixsRows E Z C B q =
    ((C.zip B).zipIdx q).map fun p => shellSum E (fun sh => coefOf (lotzEntry Z p.2 sh)) p.1.1 p.1.2 0 0
  | [], _, _ => by simp [eixsRows]
  | _ :: _, [], _ => by simp [eixsRows]
  | c :: cs, e :: es, q => by simp [eixsRows, eixsRows_eq_map E Z cs es (q + 1)]

theorem eixsVec_length (Z : ℕ) (hZ1 : 1 ≤ Z) (hZ : Z ≤ 105) (E : ℝ) : (eixsVec Z E).length = Z + 1 := by
  obtain ⟨hc, he, _⟩ := C11.tables_sound Z hZ1 hZ
  simp [eixsVec, eixsRows_eq_map, hc, he]

theorem eixsVec_getElem (Z cs : ℕ) (hZ1 : 1 ≤ Z) (hZ : Z ≤ 105) (hcs : cs < Z) (E : ℝ) :
    ∃ (h : cs < (eixsVec Z E).length) (h1 : cs < (cfg Z).length) (h2 : cs < (ebind Z).length),
      (cfg Z)[cs].length = (ebind Z)[cs].length ∧
      (eixsVec Z E)[cs] = shellSum E (fun sh => coefOf (lotzEntry Z cs sh)) (cfg Z)[cs] (ebind Z)[cs] 0 0 := by
  obtain ⟨hc, he, h1, h2, hrow⟩ := C11.shell_rows Z cs hZ1 hZ hcs
  refine ⟨by rw [eixsVec_length Z hZ1 hZ]; omega, h1, h2, ((C11.occBoundB_iff _ _).mp hrow.occBound).1, ?_⟩
  simp [eixsVec, eixsRows_eq_map, List.getElem_append_left, hc, he, hcs]

/-- the vector has one entry per charge state `0…Z` and **the bare nucleus entry is exactly 0** -/
theorem eixs_bare_zero (Z : ℕ) (hZ1 : 1 ≤ Z) (hZ : Z ≤ 105) (E : ℝ) :
    (eixsVec Z E).length = Z + 1 ∧ (eixsVec Z E).getLast? = some 0 :=
  ⟨eixsVec_length Z hZ1 hZ E, by simp [eixsVec]⟩

/-- smallest binding energy of charge state `cs` (scaled natural), from the tables -/
def minBind (Z cs : ℕ) : Option ℕ := minBindN ((cfg Z).getD cs []) ((ebind Z).getD cs [])

theorem minBind_eq (Z cs : ℕ) (h1 : cs < (cfg Z).length) (h2 : cs < (ebind Z).length) :
    minBind Z cs = minBindN (cfg Z)[cs] (ebind Z)[cs] := by
  simp [minBind, h1, h2]

/-- **C07 main theorem.** For every element `1 ≤ Z ≤ 105`, every charge state `cs < Z` and every
energy `E`: the cross section is non-negative; it is exactly zero at and below the smallest
binding energy of the charge state; it is strictly positive above it. -/
theorem eixs_threshold (Z cs : ℕ) (hZ1 : 1 ≤ Z) (hZ : Z ≤ 105) (hcs : cs < Z) (E : ℝ) :
    ∃ (h : cs < (eixsVec Z E).length),
      0 ≤ (eixsVec Z E)[cs] ∧
      (∀ m, minBind Z cs = some m → E ≤ ofScaled m scEbind → (eixsVec Z E)[cs] = 0) ∧
      (∀ m, minBind Z cs = some m → (ofScaled m scEbind : ℝ) < E → 0 < (eixsVec Z E)[cs]) := by
  obtain ⟨hlt, h1, h2, hl, hget⟩ := eixsVec_getElem Z cs hZ1 hZ hcs E
  obtain ⟨_, _, hok⟩ := lotz_table_facts Z cs hZ1 hZ hcs
  -- the threshold `m` is the least binding energy of an occupied sub-shell, and one of them
  simp only [minBind_eq Z cs h1 h2, minBindN_eq_min?, List.min?_eq_some_iff]
  refine ⟨hlt, ?_, fun m hm hE => ?_, fun m hm hE => ?_⟩ <;> rw [hget]
  · exact shellSum_ge 0 hok hl
  · exact shellSum_eq_of_closed 0 hl fun m' hm' => hE.trans ((ofScaled_le_iff _ _ _).mpr (hm.2 m' hm'))
  · exact shellSum_gt_of_open 0 hok hl hm.1 hE

/-- every row has an occupied shell, so the threshold of the theorem above always exists -/
theorem minBind_exists (Z cs : ℕ) (hZ1 : 1 ≤ Z) (hZ : Z ≤ 105) (hcs : cs < Z) : (minBind Z cs).isSome = true := by
  obtain ⟨h1, h2, h⟩ := C11.minBindN_isSome Z cs hZ1 hZ hcs
  rwa [minBind_eq Z cs h1 h2]

/-- all entries of the vector are non-negative (finite sums of the terms above) -/
theorem eixs_nonneg (Z : ℕ) (hZ1 : 1 ≤ Z) (hZ : Z ≤ 105) (E : ℝ) (cs : ℕ) (h : cs < (eixsVec Z E).length) :
    0 ≤ (eixsVec Z E)[cs] := by
  obtain ⟨hlen, hlast⟩ := eixs_bare_zero Z hZ1 hZ E
  by_cases hcs : cs < Z
  · obtain ⟨_, h0, _⟩ := eixs_threshold Z cs hZ1 hZ hcs E
    exact h0
  · -- `cs = Z`: the last entry, of the bare nucleus
    obtain rfl : cs = Z := by omega
    rw [List.getLast?_eq_getElem?, hlen, Nat.add_sub_cancel, List.getElem?_eq_getElem h] at hlast
    exact (Option.some.inj hlast).ge

-- non-vacuity: neutral hydrogen has a threshold (13.598… eV); the hypotheses hold of Fe³⁺
example : (minBind 1 0).isSome = true := by decide +kernel
example : (1 ≤ 26 ∧ 26 ≤ 105 ∧ 3 < 26) := by decide

/-! ## the cross section is the documented Lotz sum -/

section LotzSum
open Real

/-- the relativistic Gryzinski factor of the documentation, `i = P/m_e c²`, `t = E/m_e c²` -/
noncomputable def gryzinski (i t : ℝ) : ℝ :=
  (2 + i) / (2 + t) * ((1 + t) / (1 + i)) ^ 2
    * (((i + t) * (2 + t) * (1 + i) ^ 2) / (t * (2 + t) * (1 + i) ^ 2 + i * (2 + i))) ^ (1.5 : ℝ)

/-- the documented Lotz expression of one sub-shell: `a n ln(E/P)/(E P) · (1 − b exp(−c (E/P − 1)))` times the Gryzinski factor -/
noncomputable def lotzSpec (a b c : ℝ) (n : ℕ) (P E : ℝ) : ℝ :=
  a * (n : ℝ) * Real.log (E / P) / (E * P) * (1 - b * Real.exp (-c * (E / P - 1)))
    * gryzinski (P / Const.M_E_EV) (E / Const.M_E_EV)

/-- coefficient triple in effect: the tabulated one, or `a = 4.5e-18 m² eV²`, `b = c = 0` -/
noncomputable def coefTriple : Option (ℝ × ℝ × ℝ) → ℝ × ℝ × ℝ
  | some t => t
  | none => (4.5e-18, 0, 0)

theorem lotzTerm_eq_spec (E : ℝ) (n : ℕ) (P : ℝ) (co : Option (ℝ × ℝ × ℝ)) :
    lotzTerm E n P co = lotzSpec (coefTriple co).1 (coefTriple co).2.1 (coefTriple co).2.2 n P E := by
  have key : ∀ t : ℝ × ℝ × ℝ, lotzTerm E n P (some t) = lotzSpec t.1 t.2.1 t.2.2 n P E := by
    rintro ⟨a, b, c⟩
    simp only [lotzTerm, lotzSpec, gryzinski, grys, lit_real, powN_real, Transc.rpow_real, Transc.log_real, Transc.exp_real]
    norm_num; ring
  cases co with
  | none => rw [lotzTerm_none]; exact key _
  | some t => exact key t

/-- the inner loop of `eixs_vec` is the sum of the documented sub-shell expressions over the occupied sub-shells that are open at `E` -/
theorem shellSum_eq_sum (E : ℝ) (co : ℕ → Option (ℝ × ℝ × ℝ)) : ∀ (ns es : List ℕ) (sh : ℕ) (acc : ℝ), ns.length = es.length →
    shellSum E co ns es sh acc = acc + ∑ k ∈ Finset.range ns.length,
      (if 0 < ns.getD k 0 ∧ (ofScaled (es.getD k 0) scEbind : ℝ) < E then
        lotzSpec (coefTriple (co (sh + k))).1 (coefTriple (co (sh + k))).2.1 (coefTriple (co (sh + k))).2.2
          (ns.getD k 0) (ofScaled (es.getD k 0) scEbind) E else 0) := by
  intro ns es sh acc hl
  simp only [← lotzTerm_eq_spec]
  exact shellSum_eq_add_sum E co ns es sh acc hl

/-- **the cross section is the documented Lotz sum**: for every element, every charge state `cs < Z` and every energy, entry `cs` of
`eixs_vec` is the sum, over the occupied sub-shells whose binding energy `P` lies below `E`, of
`a n ln(E/P)/(E P)·(1 − b e^{−c(E/P−1)})` times the relativistic Gryzinski factor, with the sub-shell's occupation `n`, binding energy `P`
and the coefficients the lookup rule selects (`lotz_rule_*`; `a = 4.5e-18 m² eV²`, `b = c = 0` where nothing is tabulated) -/
theorem eixs_eq_lotz_sum (Z cs : ℕ) (hZ1 : 1 ≤ Z) (hZ : Z ≤ 105) (hcs : cs < Z) (E : ℝ) :
    ∃ (h : cs < (eixsVec Z E).length) (h1 : cs < (cfg Z).length) (h2 : cs < (ebind Z).length),
      (eixsVec Z E)[cs] = ∑ k ∈ Finset.range (cfg Z)[cs].length,
        (if 0 < (cfg Z)[cs].getD k 0 ∧ (ofScaled ((ebind Z)[cs].getD k 0) scEbind : ℝ) < E then
          lotzSpec (coefTriple (coefOf (lotzEntry Z cs k))).1 (coefTriple (coefOf (lotzEntry Z cs k))).2.1
            (coefTriple (coefOf (lotzEntry Z cs k))).2.2 ((cfg Z)[cs].getD k 0) (ofScaled ((ebind Z)[cs].getD k 0) scEbind) E else 0) := by
  obtain ⟨hlt, h1, h2, hl, hget⟩ := eixsVec_getElem Z cs hZ1 hZ hcs E
  refine ⟨hlt, h1, h2, ?_⟩
  rw [hget, shellSum_eq_sum E _ _ _ 0 0 hl]
  simp

end LotzSum

end C07
