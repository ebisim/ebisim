import EbisimProofs.Props.C02

/-! # C01 — the basic simulation integrates the documented rate equations

`Basic.call` is the hand model of what `basic_simulation` hands to `scipy.integrate.solve_ivp`
(Jacobian, start vector, time span, method); the correspondence check captures exactly that record
from the real call.  The theorems identify the captured matrix with the documented
`(j/e)[σ_EI + σ_RR (+ σ_DR)]` arrangement and show that `exp(t J) N₀` — the expression the property
names — *is* the solution of the linear system, is a semigroup in `t` (continuation) and is
invariant under `(j, t) ↦ (k j, t/k)`.  The numerical integrator itself is outside the model. -/
open Matrix NormedSpace
namespace C01
open RateMat Xs Gen C02 Basic Num

attribute [local instance] Matrix.linftyOpNormedRing Matrix.linftyOpNormedAlgebra

/-! ## the matrix exponential is the exact solution -/

/-- **`N(t) = exp(t J) N₀` starts at `N₀` and satisfies `dN/dt = J N` for every `t`** -/
theorem rate_ode_solution {n : ℕ} (J : Matrix (Fin n) (Fin n) ℝ) (N0 : Fin n → ℝ) :
    (exp ((0 : ℝ) • J) *ᵥ N0 = N0) ∧
    ∀ (t : ℝ) (i : Fin n), HasDerivAt (fun u : ℝ => (exp (u • J) *ᵥ N0) i) ((J *ᵥ (exp (t • J) *ᵥ N0)) i) t := by
  refine ⟨by simp, fun t i => hasDerivAt_solution J N0 t i⟩

/-- **continuation**: a run of length `s` continued for `t` from its last state equals the single
run of length `s + t`, for every split -/
theorem continuation {n : ℕ} (J : Matrix (Fin n) (Fin n) ℝ) (s t : ℝ) (N0 : Fin n → ℝ) :
    exp ((s + t) • J) *ᵥ N0 = exp (t • J) *ᵥ (exp (s • J) *ᵥ N0) := by
  rw [exp_add_smul, Matrix.mulVec_mulVec]

/-- **`k`-fold current for `1/k` of the time** reproduces the run -/
theorem current_time_scaling (Z : ℕ) (j E k t : ℝ) (hk : k ≠ 0) (w : Option ℝ) (N0 : Fin (Z + 1) → ℝ) :
    rateM Z (k * j) E w = k • rateM Z j E w ∧
    exp ((t / k) • rateM Z (k * j) E w) *ᵥ N0 = exp (t • rateM Z j E w) *ᵥ N0 := by
  have h1 : rateM Z (k * j) E w = k • rateM Z j E w := by
    unfold rateM
    have : Basic.flux (k * j) = k * Basic.flux j := by unfold Basic.flux; ring
    rw [this, smul_smul]
  exact ⟨h1, by rw [h1, smul_smul, div_mul_cancel₀ t hk]⟩

/-- **unit conversion** A/cm² → electrons/(m² s): `j · 10⁴ / e` -/
theorem unit_conversion (j : ℝ) : Basic.flux j = j * 1e4 / Const.Q_E := by
  unfold Basic.flux; norm_num

/-! ## decision logic of the start vector and of the matrix assembly -/

/-- **default start**: pure 1+ (pure neutral under CNI); a supplied vector is used unchanged -/
theorem default_start (Z : ℕ) (cni : Bool) (given : List ℝ) :
    (∀ k (h : k < (n0Default (α := ℝ) Z cni).length),
        (n0Default (α := ℝ) Z cni)[k] = if k = (if cni then 0 else 1) then 1 else 0) ∧
    (n0Default (α := ℝ) Z cni).length = Z + 1 ∧
    n0 Z cni (some given) = given ∧ n0 (α := ℝ) Z cni none = n0Default Z cni := by
  refine ⟨fun k h => ?_, by simp [n0Default], rfl, rfl⟩
  simp [n0Default]

/-- the width a caller passes counts only if it is non-zero (`if dr_fwhm:`) -/
noncomputable def effWidth : Option ℝ → Option ℝ
  | none => none
  | some w => if w = 0 then none else some w

theorem cniM_smul {n : ℕ} (c : ℝ) (J : Matrix (Fin n) (Fin n) ℝ) : c • cniM J = cniM (c • J) := by
  ext i k
  simp only [cniM, Matrix.smul_apply, smul_eq_mul]
  split_ifs <;> simp

/-- `xs_mat` before the CNI step: EI + RR, plus DR iff a non-zero width is given -/
theorem rep_xsMat (Z : ℕ) (hZ1 : 1 ≤ Z) (hZ : Z ≤ 105) (E : ℝ) (w : Option ℝ) :
    Rep (Z + 1) (Basic.xsMat Z E w false)
      (eiM (toV (Z + 1) (eixsVec Z E)) + recM (toV (Z + 1) (rrxsVec Z E))
        + (match effWidth w with | none => 0 | some w => recM (toV (Z + 1) (drxsVec Z E w)))) := by
  have h12 := rep_eirr Z hZ1 hZ E
  rcases w with _ | x
  · simpa [Basic.xsMat, effWidth] using h12
  · by_cases hx : x = 0
    · simpa [Basic.xsMat, effWidth, hx] using h12
    · have h3 := h12.add (rep_recMat (C09.dr_main Z hZ1 hZ E x).1)
      -- the model's test `¬ (x ≤ 0 ∧ 0 ≤ x)` is `x ≠ 0`
      simpa [Basic.xsMat, effWidth, hx, ← le_antisymm_iff] using h3

theorem rep_rateMatrix (Z : ℕ) (hZ1 : 1 ≤ Z) (hZ : Z ≤ 105) (j E : ℝ) (w : Option ℝ) (cni : Bool) :
    Rep (Z + 1) (Basic.rateMatrix Z j E w cni)
      (if cni then cniM (rateM Z j E (effWidth w)) else rateM Z j E (effWidth w)) := by
  have h := rep_xsMat Z hZ1 hZ E w
  cases cni
  · exact h.smul (Basic.flux j)
  · have h' : Rep (Z + 1) (Basic.matScale (Basic.flux j) (Basic.zeroRow0 (Basic.xsMat Z E w false))) (Basic.flux j • cniM _) :=
      h.zeroRow0.smul (Basic.flux j)
    rw [cniM_smul] at h'
    exact h'

/-- **the Jacobian handed to the solver is the documented matrix**: `(j·10⁴/e)[σ_EI + σ_RR]`, plus
`σ_DR` iff a non-zero width is given, with the neutral row zeroed iff CNI -/
theorem jacobian_is_documented (Z : ℕ) (hZ1 : 1 ≤ Z) (hZ : Z ≤ 105) (j E tMax : ℝ) (w : Option ℝ)
    (given : Option (List ℝ)) (cni : Bool) (method : Option String) :
    let c := Basic.call Z j E tMax w given cni method
    toM (Z + 1) c.jac = (if cni then cniM (rateM Z j E (effWidth w)) else rateM Z j E (effWidth w)) ∧
    c.y0 = n0 Z cni given ∧ c.t0 = 0 ∧ c.t1 = tMax ∧ c.method = method.getD "LSODA" := by
  refine ⟨(rep_rateMatrix Z hZ1 hZ j E w cni).toM, rfl, by simp [Basic.call], rfl, rfl⟩

/-- DR enters iff a non-zero width is given -/
theorem dr_iff_width (w : ℝ) : (effWidth (some w) = some w ↔ w ≠ 0) ∧ effWidth none = none ∧ effWidth (some 0) = none := by
  refine ⟨?_, rfl, by simp [effWidth]⟩
  simp only [effWidth]; split_ifs with h <;> simp [h]

/-- CNI freezes exactly the neutral row -/
theorem cni_row {n : ℕ} (J : Matrix (Fin n) (Fin n) ℝ) (i c : Fin n) :
    cniM J i c = if (i : ℕ) = 0 then 0 else J i c := rfl

-- non-vacuity: a non-zero width counts
example : effWidth (some 15) = some 15 := by simp [effWidth]

end C01
