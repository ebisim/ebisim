import EbisimProofs.Props.C05
import EbisimProofs.Lemmas.RateMat

/-! # C06 — the advanced simulation reduces to the basic one in the ideal-overlap limit

Right-hand-side level (exact): with only EI, RR (optionally DR) enabled, overlap factor 1 and
densities outside the smoothing band, the advanced derivative of every ion state *is* the basic
rate matrix applied to the densities, with the neutral row frozen. What the integrators make of
it and how close `f_ei` is to 1 for merely cold ions is monitored end-to-end. -/
open Matrix
namespace C06
open Adv RateMat Num Finset

/-- **the advanced right-hand side is the basic one with the neutral row frozen**: one target with
`n` charge states; rates `R = σ · N · j_e · f_ei` with `f_ei = 1`; no charge exchange, no escape.
Then for every ion state `k ≥ 1`: `dn k = (j_e (EI + RR + DR) N) k`. -/
theorem adv_refines_basic {n : ℕ} (σe σr σd N : Fin n → ℝ) (je : ℝ) (P : PRates ℝ)
    (hei : ∀ k : Fin n, P.ei k = σe k * N k * je * 1) (hrr : ∀ k : Fin n, P.rr k = σr k * N k * je * 1)
    (hdr : ∀ k : Fin n, P.dr k = σd k * N k * je * 1) (hcx : ∀ k, P.cx k = 0) (hax : ∀ k, P.ax k = 0) (hra : ∀ k, P.ra k = 0)
    (k : Fin n) (hk : (k : ℕ) ≠ 0) :
    dnAt n [0] P k = ((je • (eiM σe + recM σr + recM σd)) *ᵥ N) k ∧ dnAt n [0] P 0 = 0 := by
  refine ⟨?_, by simp [dnAt]⟩
  have hlt : (k : ℕ) - 1 < n := by omega
  have hrec : ∀ a b c : Fin n, (a : ℕ) + 1 = b → (a : ℕ) + 1 = c → b = c := fun a b c hb hc => Fin.ext (by omega)
  -- row `k ≥ 1` of the ionisation matrix receives from state `k - 1`
  have hE := xfer_mulVec_of (R := fun i j : Fin n => (i : ℕ) = (j : ℕ) + 1) σe N (fun a b c hb hc => Fin.ext (by omega))
    (k := k) (j := ⟨k - 1, hlt⟩) (by simp only; omega)
  rw [C03.dn_interior n [0] P k (by simpa using hk)]
  simp only [Matrix.smul_mulVec, Matrix.add_mulVec, Pi.smul_apply, Pi.add_apply, smul_eq_mul, hcx, hax, hra, shiftUp, shiftDown,
    hk, if_false, ite_self, eiM_eq, recM_eq, lit_real, Nat.cast_zero, hE]
  rw [show P.ei ((k : ℕ) - 1) = _ from hei ⟨k - 1, hlt⟩, hei k, hrr k, hdr k]
  -- row `k` of a recombination matrix receives from state `k + 1`, if there is one
  by_cases h2 : (k : ℕ) + 1 < n
  · rw [xfer_mulVec_of σr N hrec (j := ⟨k + 1, h2⟩) rfl, xfer_mulVec_of σd N hrec (j := ⟨k + 1, h2⟩) rfl, if_pos h2, if_pos h2,
      show P.rr ((k : ℕ) + 1) = _ from hrr ⟨k + 1, h2⟩, show P.dr ((k : ℕ) + 1) = _ from hdr ⟨k + 1, h2⟩]
    ring
  · have hn : ∀ j : Fin n, ¬ (k : ℕ) + 1 = j := fun j => by omega
    rw [xfer_mulVec_none σr N hn, xfer_mulVec_none σd N hn, if_neg h2, if_neg h2]
    ring

/-- **neutral densities are constant in every advanced run**: the derivative of every neutral row is
exactly 0 (any integrator that integrates a zero derivative exactly keeps them constant) -/
theorem neutral_constant (m : Model ℝ) (y : Array ℝ) (k : ℕ) (hk : k ∈ m.lb) :
    (rhs m y).dn k = 0 ∧ (rhs m y).dkT k = 0 :=
  C03.neutrals_frozen m.nq m.lb (stage m y).prates ((stage m y).tin m) k hk

/-- **with ionisation as the only enabled process the ions of a target grow exactly by the ionised
neutrals** (`= 0` when the neutral density is below the cut-off: pure ion injection) -/
theorem ei_only_ion_growth (nq : ℕ) (lb : List ℕ) (P : PRates ℝ) (L U : ℕ) (h : L + 2 ≤ U) (hU : U ≤ nq)
    (hint : ∀ k ∈ Ico (L + 1) U, k ∉ lb) (hEi : P.ei (U - 1) = 0)
    (hrr : ∀ k, P.rr k = 0) (hdr : ∀ k, P.dr k = 0) (hcx : ∀ k, P.cx k = 0) (hax : ∀ k, P.ax k = 0) (hra : ∀ k, P.ra k = 0) :
    ∑ k ∈ Ico (L + 1) U, dnAt nq lb P k = P.ei L := by
  rw [C03.dn_balance nq lb P L U h hU hint hEi (fun _ => hrr U) (fun _ => hdr U) (fun _ => hcx U)]
  simp [hrr, hdr, hcx, hax, hra]

/-- the electron flux of the advanced model and the basic model's unit conversion agree -/
theorem flux_agrees (m : Model ℝ) (y : Array ℝ) : (stage m y).je = Basic.flux m.j := by
  rw [C05.je_formula]; unfold Basic.flux; ring

-- non-vacuity: a three-state target (Z = 2)
example : (∀ k ∈ Ico (0 + 1) 3, k ∉ ([0] : List ℕ)) := by decide

end C06
