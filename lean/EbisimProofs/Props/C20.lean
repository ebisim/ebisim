import EbisimProofs.Lemmas.Velocity
import EbisimModel.Model.Beam

/-! # C20 — electron-beam space-charge estimate: self-consistent, continuous potential

`Gen.characteristic_potential`, `Gen.herrmann_radius` are generated from `beams.py`;
`Beam.loop/multip/correction` is the hand model of the fixed-point loop and of the profile. -/
namespace C20
open Beam Num Gen Real

/-! ## documented formulas -/

/-- `φ₀ = I / (4π ε₀ v_e)` -/
noncomputable def Spec.charPot (I E : ℝ) : ℝ := I / (4 * Const.PI * Const.EPS_0 * electron_velocity E)
noncomputable def Spec.s1 (I b_d E : ℝ) : ℝ := Const.M_E * I / (Const.PI * Const.EPS_0 * Const.Q_E * electron_velocity E * b_d ^ 2)
noncomputable def Spec.s2 (t_c r_c b_d : ℝ) : ℝ := 8 * Const.K_B * t_c * Const.M_E * r_c ^ 2 / (Const.Q_E ^ 2 * b_d ^ 2)
noncomputable def Spec.s3 (b_c r_c b_d : ℝ) : ℝ := b_c ^ 2 * r_c ^ 4 / b_d ^ 2

/-- Herrmann radius `√(s₁ + √(s₁² + s₂ + s₃))` -/
noncomputable def Spec.herrmann (s1 s2 s3 : ℝ) : ℝ := Real.sqrt (s1 + Real.sqrt (s1 ^ 2 + s2 + s3))

theorem charPot_eq_spec (B : Params ℝ) (E : ℝ) : cpot B E = Spec.charPot B.cur E := by
  simp [cpot, characteristic_potential, Spec.charPot]

theorem herrmann_eq_spec (B : Params ℝ) (E : ℝ) :
    herr B E = Spec.herrmann (Spec.s1 B.cur B.b_d E) (Spec.s2 B.t_c B.r_c B.b_d) (Spec.s3 B.b_c B.r_c B.b_d) := by
  simp [herr, herrmann_radius, Spec.herrmann, Spec.s1, Spec.s2, Spec.s3]

/-- **the Herrmann radius is never smaller than the Brillouin radius** `√(2 s₁)` -/
theorem herrmann_ge_brillouin (s1 s2 s3 : ℝ) (h1 : 0 ≤ s1) (h2 : 0 ≤ s2) (h3 : 0 ≤ s3) :
    Real.sqrt (2 * s1) ≤ Spec.herrmann s1 s2 s3 := by
  unfold Spec.herrmann
  apply Real.sqrt_le_sqrt
  have : s1 ≤ Real.sqrt (s1 ^ 2 + s2 + s3) := by
    calc s1 = Real.sqrt (s1 ^ 2) := (Real.sqrt_sq h1).symm
      _ ≤ Real.sqrt (s1 ^ 2 + s2 + s3) := Real.sqrt_le_sqrt (by linarith)
  linarith

theorem herrmann_mono (s1 s2 s2' s3 s3' : ℝ) (h2 : s2 ≤ s2') (h3 : s3 ≤ s3') :
    Spec.herrmann s1 s2 s3 ≤ Spec.herrmann s1 s2' s3' := by
  unfold Spec.herrmann
  apply Real.sqrt_le_sqrt
  have := Real.sqrt_le_sqrt (show s1 ^ 2 + s2 + s3 ≤ s1 ^ 2 + s2' + s3' by linarith)
  linarith

/-- **the Herrmann radius does not shrink when cathode temperature, cathode field or cathode radius
grow** (all quantities non-negative, `b_d ≠ 0` not even needed) -/
theorem herrmann_mono_cathode (B B' : Params ℝ) (E : ℝ)
    (hcur : B'.cur = B.cur) (hbd : B'.b_d = B.b_d)
    (ht : B.t_c ≤ B'.t_c) (ht0 : 0 ≤ B.t_c) (hb : B.b_c ≤ B'.b_c) (hb0 : 0 ≤ B.b_c) (hr : B.r_c ≤ B'.r_c) (hr0 : 0 ≤ B.r_c) :
    herr B E ≤ herr B' E := by
  have hK := Const.K_B_pos
  have hM := Const.M_E_pos
  have ht' : 0 ≤ B'.t_c := ht0.trans ht
  rw [herrmann_eq_spec, herrmann_eq_spec, hcur, hbd]
  apply herrmann_mono
  · -- `s₂ ∝ t_c r_c²`
    unfold Spec.s2
    apply div_le_div_of_nonneg_right _ (by positivity)
    exact mul_le_mul (mul_le_mul_of_nonneg_right (mul_le_mul_of_nonneg_left ht (by positivity)) hM.le)
      (pow_le_pow_left₀ hr0 hr 2) (by positivity) (by positivity)
  · -- `s₃ ∝ b_c² r_c⁴`
    unfold Spec.s3
    apply div_le_div_of_nonneg_right _ (by positivity)
    exact mul_le_mul (pow_le_pow_left₀ hb0 hb 2) (pow_le_pow_left₀ hr0 hr 4) (by positivity) (by positivity)

/-! ## the fixed-point loop -/

/-- what holds of a state produced by the loop body -/
def Consistent (B : Params ℝ) (e_kin : ℝ) (s : LoopState ℝ) : Prop :=
  s.r_e = herr B (e_kin + s.old) ∧ s.phi0 = cpot B (e_kin + s.old) ∧
  s.new = s.phi0 * (2 * Real.log (s.r_e / B.r_d) - 1)

theorem body_consistent (B : Params ℝ) (e_kin : ℝ) (s : LoopState ℝ) : Consistent B e_kin (body B e_kin s) := by
  simp [Consistent, body]

/-- the invariant is a disjunction because `init` (`new = 1`, `old = 0`) is not `Consistent`: it passes the guard, so the body runs at least once -/
theorem loop_spec (B : Params ℝ) (e_kin : ℝ) : ∀ (fuel : ℕ) (s : LoopState ℝ),
    (Consistent B e_kin s ∨ Beam.guard s) →
    let r := loop B e_kin fuel s
    r.exhausted = true ∨ (Consistent B e_kin r ∧ ¬ Beam.guard r) := by
  intro fuel
  induction fuel with
  | zero => intro s _; simp [loop]
  | succ k ih =>
    intro s hs
    simp only [loop]
    split_ifs with hg
    · exact ih (body B e_kin s) (Or.inl (body_consistent B e_kin s))
    · exact Or.inr ⟨hs.resolve_right hg, hg⟩

/-- **exit condition**: when the loop leaves (fuel not exhausted), the returned on-axis value is
`φ₀(E+φ_old) (2 ln(r_H(E+φ_old)/r_d) − 1)` with Herrmann radius and characteristic potential
evaluated at the energy corrected by the previous iterate, and `(new − old)/new ≤ 10⁻⁶`:
the value reproduces itself under the fixed-point map to 10⁻⁶ relative. (That the quotient is not
negative — monotone approach — is monitored, not proved: `fixed_point_partial`.) -/
theorem fixed_point_partial (B : Params ℝ) (e_kin : ℝ) (fuel : ℕ) :
    let r := loop B e_kin fuel init
    r.exhausted = true ∨
      (r.r_e = herr B (e_kin + r.old) ∧ r.phi0 = cpot B (e_kin + r.old) ∧
       r.new = r.phi0 * (2 * Real.log (r.r_e / B.r_d) - 1) ∧ (r.new - r.old) / r.new ≤ 1e-6) := by
  have hg : Beam.guard (init : LoopState ℝ) := by simp [Beam.guard, init]; norm_num
  rcases loop_spec B e_kin fuel init (Or.inr hg) with h | ⟨⟨h1, h2, h3⟩, h4⟩
  · exact Or.inl h
  · refine Or.inr ⟨h1, h2, h3, ?_⟩
    simpa [Beam.guard] using h4

/-! ## the radial profile -/

theorem multip_inner (B : Params ℝ) {r_e r : ℝ} (h : r < r_e) :
    multip B r_e r = 2 * Real.log (r_e / B.r_d) + (r / r_e) ^ 2 - 1 := by
  simp only [multip, if_pos h, lit_real, powN_real, Transc.log_real, Nat.cast_ofNat, Nat.cast_one]

theorem multip_outer (B : Params ℝ) {r_e r : ℝ} (h : r_e ≤ r) : multip B r_e r = 2 * Real.log (r / B.r_d) := by
  simp only [multip, if_neg (not_lt.mpr h), lit_real, Transc.log_real, Nat.cast_ofNat]

/-- the profile in one piece; both `max r r_e` and `min (r / r_e) 1` are monotone in `r` -/
theorem multip_eq (B : Params ℝ) {r_e : ℝ} (hre : 0 < r_e) (r : ℝ) :
    multip B r_e r = 2 * Real.log (max r r_e / B.r_d) + min (r / r_e) 1 ^ 2 - 1 := by
  rcases lt_or_ge r r_e with h | h
  · rw [multip_inner B h, max_eq_right h.le, min_eq_left ((div_le_one hre).mpr h.le)]
  · rw [multip_outer B h, max_eq_left h, min_eq_right ((one_le_div hre).mpr h)]
    ring

/-- **continuous at the beam edge** -/
theorem profile_continuous (B : Params ℝ) (r_e : ℝ) (hre : 0 < r_e) :
    2 * Real.log (r_e / B.r_d) + (r_e / r_e) ^ 2 - 1 = multip B r_e r_e := by
  rw [multip_outer B le_rfl, div_self hre.ne']
  ring

/-- **zero at the drift tube** -/
theorem profile_zero_at_tube (B : Params ℝ) (r_e : ℝ) (hrd : 0 < B.r_d) (h : r_e ≤ B.r_d) : multip B r_e B.r_d = 0 := by
  rw [multip_outer B h, div_self hrd.ne', Real.log_one, mul_zero]

/-- **negative inside the tube** (so `φ₀ · multip < 0` for `φ₀ > 0`) -/
theorem profile_neg (B : Params ℝ) (r_e r : ℝ) (hre : 0 < r_e) (hed : r_e < B.r_d) (hr0 : 0 ≤ r) (hrd : r < B.r_d) :
    multip B r_e r < 0 := by
  have hl : Real.log (max r r_e / B.r_d) < 0 :=
    Real.log_neg (div_pos (lt_max_of_lt_right hre) (hre.trans hed)) ((div_lt_one (hre.trans hed)).mpr (max_lt hrd hed))
  have hq : min (r / r_e) 1 ^ 2 ≤ 1 := pow_le_one₀ (le_min (div_nonneg hr0 hre.le) zero_le_one) (min_le_right _ _)
  rw [multip_eq B hre]
  linarith

/-- **non-decreasing in `r` on `[0, r_d]`** -/
theorem profile_mono (B : Params ℝ) (r_e : ℝ) (hre : 0 < r_e) (hd : 0 < B.r_d) (r1 r2 : ℝ) (h0 : 0 ≤ r1) (h12 : r1 ≤ r2) :
    multip B r_e r1 ≤ multip B r_e r2 := by
  have hl : Real.log (max r1 r_e / B.r_d) ≤ Real.log (max r2 r_e / B.r_d) :=
    Real.log_le_log (div_pos (lt_max_of_lt_right hre) hd) (div_le_div_of_nonneg_right (max_le_max_right _ h12) hd.le)
  have hq : min (r1 / r_e) 1 ^ 2 ≤ min (r2 / r_e) 1 ^ 2 :=
    pow_le_pow_left₀ (le_min (div_nonneg h0 hre.le) zero_le_one) (min_le_min_right _ (div_le_div_of_nonneg_right h12 hre.le)) 2
  rw [multip_eq B hre, multip_eq B hre]
  linarith

theorem correction_of_mem (B : Params ℝ) (fuel : ℕ) (e_kin : ℝ) {r : ℝ} (h0 : 0 ≤ r) (hr : r ≤ B.r_d) :
    correction B fuel e_kin r =
      some ((loop B e_kin fuel init).phi0 * multip B (loop B e_kin fuel init).r_e r, loop B e_kin fuel init) := by
  simp only [correction, lit_real, Nat.cast_zero, not_lt.mpr hr, not_lt.mpr h0, or_self, if_false]

/-- **`ValueError` exactly outside `[0, r_d]`** -/
theorem range_error (B : Params ℝ) (fuel : ℕ) (e_kin r : ℝ) :
    correction B fuel e_kin r = none ↔ (B.r_d < r ∨ r < 0) := by
  by_cases h : B.r_d < r ∨ r < 0
  · simp only [correction, lit_real, Nat.cast_zero, h, if_true]
  · rw [correction_of_mem B fuel e_kin (not_lt.mp (not_or.mp h).2) (not_lt.mp (not_or.mp h).1)]
    simp [h]

/-! ## signs of the documented quantities -/

/-- the generated `electron_velocity` is positive at a positive energy (from `Lemmas/Velocity`, which unfolds the generated
definition, so that this file does not depend on the proofs of C15) -/
theorem ve_pos (E : ℝ) (hE : 0 < E) : 0 < electron_velocity E := electron_velocity_pos hE

/-- the characteristic potential is positive for a positive current and energy -/
theorem cpot_pos (B : Params ℝ) (E : ℝ) (hI : 0 < B.cur) (hE : 0 < E) : 0 < cpot B E := by
  rw [charPot_eq_spec]; unfold Spec.charPot
  have hv := ve_pos E hE
  have hP := Const.PI_pos; have hE0 := Const.EPS_0_pos
  positivity

theorem s1_pos (I b_d E : ℝ) (hI : 0 < I) (hb : b_d ≠ 0) (hE : 0 < E) : 0 < Spec.s1 I b_d E := by
  unfold Spec.s1
  have hv := ve_pos E hE
  have hP := Const.PI_pos; have hE0 := Const.EPS_0_pos; have hM := Const.M_E_pos; have hQ := Const.Q_E_pos
  have : 0 < b_d ^ 2 := by positivity
  positivity

theorem s2_nonneg (t_c r_c b_d : ℝ) (ht : 0 ≤ t_c) : 0 ≤ Spec.s2 t_c r_c b_d := by
  unfold Spec.s2
  have hK := Const.K_B_pos; have hM := Const.M_E_pos
  positivity

theorem s3_nonneg (b_c r_c b_d : ℝ) : 0 ≤ Spec.s3 b_c r_c b_d := by
  unfold Spec.s3; positivity

/-- **model-level**: the Herrmann radius computed by `herrmann_radius` is at least the Brillouin
radius `√(2 s₁)` of the same beam at the same energy, and it is positive -/
theorem herr_ge_brillouin (B : Params ℝ) (E : ℝ) (hI : 0 < B.cur) (hb : B.b_d ≠ 0) (hE : 0 < E) (ht : 0 ≤ B.t_c) :
    Real.sqrt (2 * Spec.s1 B.cur B.b_d E) ≤ herr B E ∧ 0 < herr B E := by
  have h1 := s1_pos B.cur B.b_d E hI hb hE
  have hge : Real.sqrt (2 * Spec.s1 B.cur B.b_d E) ≤ herr B E := by
    rw [herrmann_eq_spec]
    exact herrmann_ge_brillouin _ _ _ h1.le (s2_nonneg _ _ _ ht) (s3_nonneg _ _ _)
  refine ⟨hge, lt_of_lt_of_le ?_ hge⟩
  exact Real.sqrt_pos.mpr (by linarith)

/-- a state left by the loop body at a positive corrected energy has positive `φ₀` and `r_e` -/
theorem consistent_pos (B : Params ℝ) (e_kin : ℝ) (s : LoopState ℝ) (hc : Consistent B e_kin s)
    (hI : 0 < B.cur) (hb : B.b_d ≠ 0) (ht : 0 ≤ B.t_c) (hE : 0 < e_kin + s.old) : 0 < s.phi0 ∧ 0 < s.r_e := by
  obtain ⟨h1, h2, _⟩ := hc
  rw [h1, h2]
  exact ⟨cpot_pos B _ hI hE, (herr_ge_brillouin B _ hI hb hE ht).2⟩

/-! ## the returned correction -/

/-- **the on-axis value of the returned profile is the loop's self-consistent value**:
`space_charge_correction(e_kin, 0) = sc_on_ax_new` -/
theorem correction_on_axis (B : Params ℝ) (fuel : ℕ) (e_kin : ℝ) (hd : 0 ≤ B.r_d)
    (hc : Consistent B e_kin (loop B e_kin fuel init)) (hre : 0 < (loop B e_kin fuel init).r_e) :
    correction B fuel e_kin 0 = some ((loop B e_kin fuel init).new, loop B e_kin fuel init) := by
  rw [correction_of_mem B fuel e_kin le_rfl hd, multip_inner B hre, hc.2.2, zero_div, zero_pow two_ne_zero, add_zero]

/-- **the returned correction is negative inside the tube, zero at the tube and non-decreasing** -/
theorem correction_profile (B : Params ℝ) (fuel : ℕ) (e_kin : ℝ)
    (hphi : 0 < (loop B e_kin fuel init).phi0) (hre : 0 < (loop B e_kin fuel init).r_e)
    (hed : (loop B e_kin fuel init).r_e < B.r_d) :
    (∀ r, 0 ≤ r → r < B.r_d → ∃ v s, correction B fuel e_kin r = some (v, s) ∧ v < 0) ∧
    (∃ s, correction B fuel e_kin B.r_d = some (0, s)) ∧
    (∀ r1 r2 v1 v2 s1 s2, 0 ≤ r1 → r1 ≤ r2 → correction B fuel e_kin r1 = some (v1, s1) →
        correction B fuel e_kin r2 = some (v2, s2) → v1 ≤ v2) := by
  have hd : 0 < B.r_d := lt_trans hre hed
  refine ⟨fun r h0 hr => ⟨_, _, correction_of_mem B fuel e_kin h0 hr.le,
      mul_neg_of_pos_of_neg hphi (profile_neg B _ r hre hed h0 hr)⟩,
    ⟨_, by rw [correction_of_mem B fuel e_kin hd.le le_rfl, profile_zero_at_tube B _ hd hed.le, mul_zero]⟩, ?_⟩
  intro r1 r2 v1 v2 s1 s2 h0 h12 e1 e2
  have hr2 : r2 ≤ B.r_d := not_lt.mp fun h => by simp [correction, h] at e2
  rw [correction_of_mem B fuel e_kin h0 (h12.trans hr2), Option.some.injEq, Prod.mk.injEq] at e1
  rw [correction_of_mem B fuel e_kin (h0.trans h12) hr2, Option.some.injEq, Prod.mk.injEq] at e2
  rw [← e1.1, ← e2.1]
  exact mul_le_mul_of_nonneg_left (profile_mono B _ hre hd r1 r2 h0 h12) hphi.le

/-- **the returned estimate, all clauses together**: when the loop leaves at a positive corrected energy,
`space_charge_correction(e_kin, 0)` is the loop's last value, that value is
`φ₀(E+φ_old)·(2 ln(r_H(E+φ_old)/r_d) − 1)` with the generated `characteristic_potential` / `herrmann_radius`,
it reproduces itself to 10⁻⁶ relative, and the stored beam radius is at least the Brillouin radius -/
theorem correction_self_consistent (B : Params ℝ) (fuel : ℕ) (e_kin : ℝ)
    (hI : 0 < B.cur) (hb : B.b_d ≠ 0) (ht : 0 ≤ B.t_c) (hd : 0 ≤ B.r_d)
    (hne : (loop B e_kin fuel init).exhausted = false) (hE : 0 < e_kin + (loop B e_kin fuel init).old) :
    correction B fuel e_kin 0 = some ((loop B e_kin fuel init).new, loop B e_kin fuel init) ∧
    (loop B e_kin fuel init).new = cpot B (e_kin + (loop B e_kin fuel init).old) *
        (2 * Real.log (herr B (e_kin + (loop B e_kin fuel init).old) / B.r_d) - 1) ∧
    ((loop B e_kin fuel init).new - (loop B e_kin fuel init).old) / (loop B e_kin fuel init).new ≤ 1e-6 ∧
    Real.sqrt (2 * Spec.s1 B.cur B.b_d (e_kin + (loop B e_kin fuel init).old)) ≤ (loop B e_kin fuel init).r_e ∧
    0 < (loop B e_kin fuel init).phi0 := by
  rcases fixed_point_partial B e_kin fuel with h | ⟨h1, h2, h3, h4⟩
  · rw [hne] at h; exact absurd h (by simp)
  · have hc : Consistent B e_kin (loop B e_kin fuel init) := ⟨h1, h2, h3⟩
    have hp := consistent_pos B e_kin _ hc hI hb ht hE
    refine ⟨correction_on_axis B fuel e_kin hd hc hp.2, ?_, h4, ?_, hp.1⟩
    · rw [h3, h2, h1]
    · rw [h1]; exact (herr_ge_brillouin B _ hI hb hE ht).1

/-- **continuity at the beam edge, both branches**: the quadratic (inner) branch evaluated at `r = r_e` equals the
logarithmic (outer) branch there, and the inner branch tends to that value: for `r < r_e` the two differ by `1 − (r/r_e)²` -/
theorem profile_branches_meet (B : Params ℝ) (r_e r : ℝ) (hre : 0 < r_e) (hr : r < r_e) :
    2 * Real.log (r_e / B.r_d) + (r_e / r_e) ^ 2 - 1 = 2 * Real.log (r_e / B.r_d) ∧
    multip B r_e r_e - multip B r_e r = 1 - (r / r_e) ^ 2 := by
  refine ⟨by rw [div_self hre.ne']; ring, ?_⟩
  rw [multip_outer B le_rfl, multip_inner B hr]
  ring

-- non-vacuity: the hypotheses of `profile_neg` at `r_e = 0.1 mm`, `r_d = 5 mm`, `r = 0.2 mm`
example : (0:ℝ) < 1e-4 ∧ (1e-4:ℝ) < 5e-3 ∧ (0:ℝ) ≤ 2e-4 ∧ (2e-4:ℝ) < 5e-3 := by norm_num

end C20
