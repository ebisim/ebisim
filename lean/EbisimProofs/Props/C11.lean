import EbisimProofs.Lemmas.Consts
import EbisimModel.Model.Elements

/-! # C11 — element database is self-consistent, lookups exact

Tables are regenerated from `resources/_element_data.py`, `_shell_data.py` on every run; the lookup
functions are the hand model `Elements.*` of `ebisim/elements.py` (exhaustive correspondence over
all identifiers). Table facts are kernel evaluations over *all* rows. -/
namespace C11
open Elements Xs Gen Num

/-! ## identifier lookups -/

theorem idxOfK_eq {κ : Type} [DecidableEq κ] (k : κ) : ∀ (l : List κ) (i : ℕ),
    idxOfK k l i = (l.idxOf? k).map (· + i)
  | [], _ => rfl
  | x :: xs, i => by
    by_cases h : x = k <;> simp [idxOfK, List.idxOf?_cons, h, idxOfK_eq k xs, Nat.add_comm 1 i]

theorem idxOfK_none {κ : Type} [DecidableEq κ] (k : κ) (l : List κ) (i : ℕ) (h : k ∉ l) : idxOfK k l i = none := by
  simp [idxOfK_eq, h]

theorem idxOfK_some_mem {κ : Type} [DecidableEq κ] (k : κ) : ∀ (l : List κ) (i j : ℕ), idxOfK k l i = some j → k ∈ l := by
  intro l i j h
  by_contra hk
  simp [idxOfK_none k l i hk] at h

/-- `lookup_roundtrip` for row `i`, as a Bool. The lengths are what `element_z` tells a symbol from a name by (`len(element) < 3`);
`indexOf z elemZ` is where `Element.get` reads the default mass number and the ionisation potential. -/
def lookupRowOkB (i : ℕ) : Bool :=
  match elemZ[i]?, elemESc[i]?, elemNAMEc[i]? with
  | some z, some s, some nm =>
    Nat.beq z (i + 1) && decide (identify (.num z) = some (z, nm, s)) && decide (identify (.str s) = some (z, nm, s))
      && decide (identify (.str nm) = some (z, nm, s)) && Nat.ble s.length 2 && Nat.ble 3 nm.length
      && decide (indexOf z elemZ = some i)
  | _, _, _ => false

theorem lookup_tables_ok : ∀ i ∈ List.range 105, lookupRowOkB i = true := by decide +kernel
theorem table_lengths : elemZ.length = 105 ∧ elemESc.length = 105 ∧ elemNAMEc.length = 105 ∧
    elemA.length = 105 ∧ elemIP.length = 105 := by decide +kernel

/-- **lookup round trip, all 105 elements**: by proton number, by symbol and by name the same
element with its own Z, name and symbol is returned -/
theorem lookup_roundtrip (i : ℕ) (hi : i < 105) :
    ∃ (z : ℕ) (s nm : List ℕ), elemZ[i]? = some z ∧ elemESc[i]? = some s ∧ elemNAMEc[i]? = some nm ∧
      z = i + 1 ∧ identify (.num z) = some (z, nm, s) ∧ identify (.str s) = some (z, nm, s) ∧
      identify (.str nm) = some (z, nm, s) ∧ s.length ≤ 2 ∧ 3 ≤ nm.length ∧ indexOf z elemZ = some i := by
  obtain ⟨lz, ls, ln, _⟩ := table_lengths
  have hz := List.getElem?_eq_getElem (l := elemZ) (lz ▸ hi)
  have hs := List.getElem?_eq_getElem (l := elemESc) (ls ▸ hi)
  have hn := List.getElem?_eq_getElem (l := elemNAMEc) (ln ▸ hi)
  have h := lookup_tables_ok i (List.mem_range.mpr hi)
  -- with the three entries known the `match` of `lookupRowOkB` reduces; `and_assoc` nests its `&&` chain as the statement does
  simp only [lookupRowOkB, hz, hs, hn, Bool.and_eq_true, Nat.beq_eq, decide_eq_true_eq, Nat.ble_eq, and_assoc] at h
  exact ⟨_, _, _, hz, hs, hn, h⟩

/-- default mass number and ionisation potential of a looked-up element are its own row's -/
theorem element_head_default (i : ℕ) (hi : i < 105) (a ip : ℕ) (ha : elemA[i]? = some a) (hip : elemIP[i]? = some ip)
    (hapos : 0 < a) :
    elementHead (α := ℝ) (.num (i + 1 : ℕ)) none = some (i + 1, (a : ℝ), ofScaled ip scCoef) := by
  obtain ⟨z, s, nm, hz, hs, hn, rfl, hid, _, _, _, _, hidx⟩ := lookup_roundtrip i hi
  have hid' : identify (.num ((i + 1 : ℕ) : ℤ)) = some (i + 1, nm, s) := by exact_mod_cast hid
  simp only [elementHead, hid', Option.bind_some, hidx]
  have h1 : elemIP.getD i 0 = ip := by simp [List.getD_eq_getElem?_getD, hip]
  have h2 : elemA.getD i 0 = a := by simp [List.getD_eq_getElem?_getD, ha]
  rw [h1, h2]
  have : ¬ ((a : ℝ) ≤ 0) := by push Not; exact_mod_cast hapos
  simp [this]

/-- **unknown identifiers raise** (`none` = ValueError): a string that is neither a symbol nor a name -/
theorem lookup_unknown_str (s : List ℕ) (h1 : s ∉ elemESc) (h2 : s ∉ elemNAMEc) : identify (.str s) = none := by
  have : elementZ s = none := by
    unfold elementZ indexOf
    split_ifs
    · rw [idxOfK_none s elemESc 0 h1]; rfl
    · rw [idxOfK_none s elemNAMEc 0 h2]; rfl
  simp [identify, this]

/-- … and a proton number outside the table -/
theorem lookup_unknown_num (z : ℤ) (h : z < 0 ∨ z.toNat ∉ elemZ) : identify (.num z) = none := by
  have : elementSymbol (.num z) = none := by
    unfold elementSymbol indexOf
    rcases h with h | h
    · simp [h]
    · by_cases hz : z < 0
      · simp [hz]
      · simp only [hz, if_false]; rw [idxOfK_none _ elemZ 0 h]; rfl
  simp [identify, this]

/-- the table of proton numbers is exactly `1 … 105` -/
theorem elemZ_eq : elemZ = List.range' 1 105 := by decide +kernel

/-- **non-positive mass numbers raise** -/
theorem mass_number_guard (id : Ident) (a : ℝ) (ha : a ≤ 0) : elementHead id (some a) = none := by
  unfold elementHead
  cases identify id with
  | none => rfl
  | some r =>
    obtain ⟨z, nm, s⟩ := r
    simp only [Option.bind_some]
    cases indexOf z elemZ with
    | none => rfl
    | some idx => simp [ha]

/-! ## shell tables: all 5565 rows

The checkers are Bool-valued and walk the tables by structural recursion, so that the kernel evaluates `tables_checked` in one pass; the
indexed statements come from the `_sound` lemmas. (Stated with `List.range` and `getElem` the same facts are far slower to evaluate.) -/

/-- capacities `2j + 1` of the sub-shells `(n, l, j = l ∓ ½)`, in the order of `Gen.shellOrderS` (the columns of the shell tables):
2 for `s` and `p⁻`, 4 for `p⁺` and `d⁻`, 6 for `d⁺` and `f⁻`, 8 for `f⁺`. What the proofs use of it is evaluated where it is used:
a `±` pair holds at most `4l + 2` electrons (`C07.neutral_dict_ok`), principal shell `n` at most `2n²` (`C08.shell_capacity`). -/
def caps : List ℕ := [2, 2, 2, 4, 2, 2, 4, 4, 6, 2, 2, 4, 4, 6, 6, 8, 2, 2, 4, 4, 6, 6, 8, 2, 2, 4, 4, 6, 2, 2]

/-- the rows `(Z, q)` of `SHELL_CFG` that hold the wrong number of electrons: O 0+, F 1+, W 0+, W 1+, Pt 0+ (known findings, DESIGN §2 D7).
The walk does not ask for their electron count. -/
def knownBad : List (ℕ × ℕ) := [(8, 0), (9, 1), (74, 0), (74, 1), (78, 0)]

def rowSum : List ℕ → ℕ
  | [] => 0
  | x :: xs => x + rowSum xs
def capOk : List ℕ → List ℕ → Bool
  | [], _ => true
  | _ :: _, [] => false
  | x :: xs, c :: cs => Nat.ble x c && capOk xs cs

/-- occupied ⇔ bound, entry by entry (and equal lengths) -/
def occBoundB : List ℕ → List ℕ → Bool
  | [], [] => true
  | n :: ns, e :: es => (Nat.blt 0 n == Nat.blt 0 e) && occBoundB ns es
  | _, _ => false

theorem capOk_iff : ∀ (c k : List ℕ), capOk c k = true ↔ c.length ≤ k.length ∧ ∀ j, c.getD j 0 ≤ k.getD j 0
  | [], _ => by simp [capOk]
  | x :: xs, [] => by simp [capOk]
  | x :: xs, y :: ys => by
    rw [capOk, Bool.and_eq_true, Nat.ble_eq, capOk_iff xs ys, ← Nat.and_forall_add_one (p := fun j => (x :: xs).getD j 0 ≤ _)]
    simp only [List.length_cons, Nat.add_le_add_iff_right, List.getD_cons_zero, List.getD_cons_succ]
    exact and_left_comm

theorem occBoundB_iff : ∀ (c e : List ℕ), occBoundB c e = true ↔ c.length = e.length ∧ ∀ k, 0 < c.getD k 0 ↔ 0 < e.getD k 0
  | [], [] => by simp [occBoundB]
  | [], _ :: _ => by simp [occBoundB]
  | _ :: _, [] => by simp [occBoundB]
  | n :: ns, en :: es => by
    rw [occBoundB, Bool.and_eq_true, beq_iff_eq, Bool.eq_iff_iff, Nat.blt_eq, Nat.blt_eq, occBoundB_iff ns es,
      ← Nat.and_forall_add_one (p := fun k => 0 < (n :: ns).getD k 0 ↔ _)]
    simp only [List.length_cons, Nat.add_right_cancel_iff, List.getD_cons_zero, List.getD_cons_succ]
    exact and_left_comm

/-- what the walk checks of row `q` of element `z` (`Xs.RowOk` of `Lemmas/Lotz` is another predicate: what C07 concludes for the row) -/
def RowOk (z q : ℕ) (c e : List ℕ) : Prop :=
  ((z, q) ∉ knownBad → rowSum c = z - q) ∧ capOk c caps = true ∧ occBoundB c e = true
def rowOkB (z q : ℕ) (c e : List ℕ) : Bool :=
  (knownBad.contains (z, q) || (rowSum c).beq (z - q)) && capOk c caps && occBoundB c e

theorem RowOk.capOk {z q : ℕ} {c e : List ℕ} (h : RowOk z q c e) : capOk c caps = true := h.2.1
theorem RowOk.occBound {z q : ℕ} {c e : List ℕ} (h : RowOk z q c e) : occBoundB c e = true := h.2.2

theorem rowOkB_sound (z q : ℕ) (c e : List ℕ) (h : rowOkB z q c e = true) : RowOk z q c e := by
  simp only [rowOkB, Bool.and_eq_true, Bool.or_eq_true, List.contains_iff_mem] at h
  refine ⟨fun hk => ?_, h.1.2, h.2⟩
  rcases h.1.1 with hc | hs
  · exact absurd hc hk
  · exact Nat.eq_of_beq_eq_true hs

/-- lowest binding energy strictly increasing from row to row: `prev` is the previous row's minimum -/
def monoB : Option ℕ → List (List ℕ) → List (List ℕ) → Bool
  | _, [], [] => true
  | prev, c :: cs, e :: es =>
    match minBindN c e with
    | none => false
    | some m => (match prev with | none => true | some p => Nat.blt p m) && monoB (some m) cs es
  | _, _, _ => false

def rowsOkB (z : ℕ) : ℕ → List (List ℕ) → List (List ℕ) → Bool
  | _, [], [] => true
  | q, c :: cs, e :: es => rowOkB z q c e && rowsOkB z (q + 1) cs es
  | _, _, _ => false

def allOkB : ℕ → Bool
  | 0 => true
  | z + 1 => ((cfg (z + 1)).length.beq (z + 1) && rowsOkB (z + 1) 0 (cfg (z + 1)) (ebind (z + 1))
      && monoB none (cfg (z + 1)) (ebind (z + 1))) && allOkB z

theorem rowsOkB_sound (z : ℕ) : ∀ (q0 : ℕ) (C B : List (List ℕ)), rowsOkB z q0 C B = true →
    C.length = B.length ∧ ∀ i (h : i < C.length) (h' : i < B.length), RowOk z (q0 + i) C[i] B[i]
  | _, [], [], _ => by simp
  | q0, c :: cs, e :: es, hb => by
    simp only [rowsOkB, Bool.and_eq_true] at hb
    obtain ⟨hl, hr⟩ := rowsOkB_sound z (q0 + 1) cs es hb.2
    refine ⟨by simp [hl], fun i hi hi' => ?_⟩
    cases i with
    | zero => exact rowOkB_sound z q0 c e hb.1
    | succ j =>
      rw [← Nat.add_assoc, Nat.add_right_comm]
      exact hr j (by simpa using hi) (by simpa using hi')

theorem monoB_cons (prev : Option ℕ) (c e : List ℕ) (cs es : List (List ℕ)) :
    monoB prev (c :: cs) (e :: es) = true ↔
      ∃ m, minBindN c e = some m ∧ (∀ p, prev = some p → p < m) ∧ monoB (some m) cs es = true := by
  simp only [monoB]
  cases minBindN c e with
  | none => simp
  | some m => cases prev <;> simp

theorem monoB_sound : ∀ (C B : List (List ℕ)) (prev : Option ℕ), monoB prev C B = true →
    ∀ i (h1 : i < C.length) (h2 : i < B.length), ∃ m, minBindN C[i] B[i] = some m ∧
      ∀ (h1' : i + 1 < C.length) (h2' : i + 1 < B.length), ∃ m', minBindN C[i + 1] B[i + 1] = some m' ∧ m < m'
  | c :: cs, e :: es, prev, hb, i, h1, h2 => by
    obtain ⟨m, hm, _, hr⟩ := (monoB_cons prev c e cs es).mp hb
    cases i with
    | zero =>
      refine ⟨m, hm, fun h1' h2' => ?_⟩
      match cs, es, hr, h1', h2' with
      | c1 :: cs', e1 :: es', hr, _, _ =>
        obtain ⟨m1, hm1, hlt, _⟩ := (monoB_cons (some m) c1 e1 cs' es').mp hr
        exact ⟨m1, hm1, hlt m rfl⟩
    | succ j => simpa using monoB_sound cs es (some m) hr j (by simpa using h1) (by simpa using h2)

theorem allOkB_sound : ∀ n, allOkB n = true → ∀ z, 1 ≤ z → z ≤ n →
    (cfg z).length = z ∧ rowsOkB z 0 (cfg z) (ebind z) = true ∧ monoB none (cfg z) (ebind z) = true := by
  intro n
  induction n with
  | zero => intro _ z h1 h2; omega
  | succ m ih =>
    intro hb z h1 h2
    simp only [allOkB, Bool.and_eq_true] at hb
    by_cases hz : z = m + 1
    · subst hz; exact ⟨Nat.eq_of_beq_eq_true hb.1.1.1, hb.1.1.2, hb.1.2⟩
    · exact ih hb.2 z h1 (by omega)

theorem tables_checked : allOkB 105 = true := by decide +kernel

/-- what `tables_checked` says about one element -/
theorem tables_sound (z : ℕ) (hz1 : 1 ≤ z) (hz : z ≤ 105) :
    (cfg z).length = z ∧ (ebind z).length = z ∧
    (∀ q (h : q < (cfg z).length) (h' : q < (ebind z).length), RowOk z q (cfg z)[q] (ebind z)[q]) ∧
    monoB none (cfg z) (ebind z) = true := by
  obtain ⟨hlen, hrows, hmono⟩ := allOkB_sound 105 tables_checked z hz1 hz
  obtain ⟨hl, hr⟩ := rowsOkB_sound z 0 _ _ hrows
  exact ⟨hlen, hl ▸ hlen, fun q h h' => by simpa using hr q h h', hmono⟩

/-- **shell tables, every element and charge state**: one row per charge state `0 … Z-1`; outside
the five listed known findings the occupations sum to `Z − q`; occupations respect the sub-shell
capacities; a binding energy is positive exactly where a sub-shell is occupied -/
theorem shell_rows (z q : ℕ) (hz1 : 1 ≤ z) (hz : z ≤ 105) (hq : q < z) :
    (cfg z).length = z ∧ (ebind z).length = z ∧
    ∃ (h : q < (cfg z).length) (h' : q < (ebind z).length), RowOk z q (cfg z)[q] (ebind z)[q] := by
  obtain ⟨hc, he, hr, _⟩ := tables_sound z hz1 hz
  exact ⟨hc, he, hc.symm ▸ hq, he.symm ▸ hq, hr q _ _⟩

theorem minBindN_isSome (z q : ℕ) (hz1 : 1 ≤ z) (hz : z ≤ 105) (hq : q < z) :
    ∃ (h : q < (cfg z).length) (h' : q < (ebind z).length), (minBindN (cfg z)[q] (ebind z)[q]).isSome = true := by
  obtain ⟨hc, he, _, hmono⟩ := tables_sound z hz1 hz
  obtain ⟨m, hm, _⟩ := monoB_sound _ _ none hmono q (hc.symm ▸ hq) (he.symm ▸ hq)
  exact ⟨_, _, by rw [hm]; rfl⟩

/-- **the lowest binding energy grows strictly with the charge state** (on the exact binary64 values) -/
theorem threshold_strictMono (z q : ℕ) (hz1 : 1 ≤ z) (hz : z ≤ 105) (hq : q + 1 < z) :
    ∃ m m', minBindN ((cfg z).getD q []) ((ebind z).getD q []) = some m ∧
      minBindN ((cfg z).getD (q + 1) []) ((ebind z).getD (q + 1) []) = some m' ∧ m < m' := by
  obtain ⟨hc, he, _, hmono⟩ := tables_sound z hz1 hz
  have h1 : q + 1 < (cfg z).length := hc.symm ▸ hq
  have h2 : q + 1 < (ebind z).length := he.symm ▸ hq
  obtain ⟨m, hm, hnext⟩ := monoB_sound _ _ none hmono q (Nat.lt_of_succ_lt h1) (Nat.lt_of_succ_lt h2)
  obtain ⟨m', hm', hlt⟩ := hnext h1 h2
  exact ⟨m, m', by simpa [Nat.lt_of_succ_lt h1, Nat.lt_of_succ_lt h2] using hm, by simpa [h1, h2] using hm', hlt⟩

/-! ## initial conditions of targets -/

theorem clampVec_eq_some (z : ℕ) (m : ℝ) (v w : List ℝ) :
    clampVec z m v = some w ↔ v.length = z + 1 ∧ w = v.map fun x => max x m := by
  unfold clampVec
  split_ifs with hl hany
  · simp [hl]
  · simp [not_not.mp hl, max'_real, eq_comm]
  · -- nothing is below the minimum, so the clamp changes nothing
    have : v.map (fun x => max x m) = v :=
      (List.map_congr_left fun x hx => max_eq_left (not_lt.mp fun hlt =>
        hany (List.any_eq_true.mpr ⟨x, hx, by simpa using hlt⟩))).trans (List.map_id' v)
    simp [not_not.mp hl, this, eq_comm]

/-- the last step of both factories, `getGas` and `getIons` -/
theorem clampPair_eq_some (z : ℕ) (a b : ℝ) (u v n k : List ℝ) :
    ((clampVec z a u).bind fun n' => (clampVec z b v).map fun k' => (n', k')) = some (n, k) ↔
      (u.length = z + 1 ∧ n = u.map fun x => max x a) ∧ v.length = z + 1 ∧ k = v.map fun x => max x b := by
  simp [Option.bind_eq_some_iff, Option.map_eq_some_iff, clampVec_eq_some]

theorem clampPair_floor {z : ℕ} {a b : ℝ} {u v n k : List ℝ}
    (h : ((clampVec z a u).bind fun n' => (clampVec z b v).map fun k' => (n', k')) = some (n, k)) :
    (∀ x ∈ n, a ≤ x) ∧ ∀ x ∈ k, b ≤ x := by
  obtain ⟨⟨-, rfl⟩, -, rfl⟩ := (clampPair_eq_some z a b u v n k).mp h
  exact ⟨List.forall_mem_map.mpr fun x _ => le_max_right x a, List.forall_mem_map.mpr fun x _ => le_max_right x b⟩

/-- **gas factory**: accepted iff the resulting line density is at least the minimum; charge state 0
gets `100 p/(k_B T) · π r²` and `max(k_B T/e, kT_min)`, all other states the minima -/
theorem getGas_formula (id : Ident) (z : ℕ) (nm s : List ℕ) (hid : identify id = some (z, nm, s)) (p r T : ℝ) :
    let n0 := p * 100 / (Const.K_B * T) * Const.PI * r ^ 2
    (n0 < Const.MINIMAL_N_1D → getGas id p r T = none) ∧
    (Const.MINIMAL_N_1D ≤ n0 → getGas id p r T =
      some (n0 :: List.replicate z Const.MINIMAL_N_1D,
            max (Const.K_B * T / Const.Q_E) Const.MINIMAL_KBT :: List.replicate z Const.MINIMAL_KBT)) := by
  intro n0
  have hn0 : (p * lit 100) / (Const.K_B * T) * Const.PI * powN r 2 = n0 := by simp [n0]
  constructor
  · intro h
    simp only [getGas, hid, Option.bind_some, hn0, h, if_true]
  · intro h
    simp only [getGas, hid, Option.bind_some, hn0, not_lt.mpr h, if_false]
    rw [clampPair_eq_some]
    simp [max_eq_left h]

/-- **ion factory**: rejected iff the requested density is below the minimum; otherwise the requested
line density and `max(kT, kT_min)` in the requested charge state and the minima everywhere else -/
theorem getIons_formula (id : Ident) (z : ℕ) (nm s : List ℕ) (hid : identify id = some (z, nm, s))
    (nl kT : ℝ) (q : ℕ) (hq : q ≤ z) :
    (nl < Const.MINIMAL_N_1D → getIons id nl kT q = none) ∧
    (Const.MINIMAL_N_1D ≤ nl → getIons id nl kT q =
      some ((List.range (z + 1)).map (fun k => if k = q then nl else Const.MINIMAL_N_1D),
            (List.range (z + 1)).map (fun k => if k = q then max kT Const.MINIMAL_KBT else Const.MINIMAL_KBT))) := by
  constructor
  · intro h; simp [getIons, h]
  · intro h
    simp only [getIons, not_lt.mpr h, if_false, hid, Option.bind_some, not_lt.mpr hq]
    have hclamp (k : ℕ) (x m : ℝ) : max (if k = q then x else m) m = if k = q then max x m else m := by
      split_ifs <;> simp
    simp only [clampPair_eq_some, List.length_map, List.length_range, List.map_map, Function.comp_def, hclamp, max_eq_left h,
      and_self]

/-- **initial densities and temperatures are never below the documented minima** -/
theorem targets_floor (id : Ident) (p r T nl kT : ℝ) (q : ℕ) :
    (∀ n k, getGas id p r T = some (n, k) → (∀ x ∈ n, Const.MINIMAL_N_1D ≤ x) ∧ (∀ x ∈ k, Const.MINIMAL_KBT ≤ x)) ∧
    (∀ n k, getIons id nl kT q = some (n, k) → (∀ x ∈ n, Const.MINIMAL_N_1D ≤ x) ∧ (∀ x ∈ k, Const.MINIMAL_KBT ≤ x)) := by
  constructor
  · intro n k h
    unfold getGas at h
    obtain ⟨⟨z, _, _⟩, -, h⟩ := Option.bind_eq_some_iff.mp h
    dsimp only at h
    split_ifs at h
    exact clampPair_floor h
  · intro n k h
    unfold getIons at h
    split_ifs at h
    obtain ⟨⟨z, _, _⟩, -, h⟩ := Option.bind_eq_some_iff.mp h
    dsimp only at h
    split_ifs at h
    exact clampPair_floor h

-- non-vacuity: tungsten 2+ is covered by `shell_rows` and really holds 72 electrons
example : RowOk 74 2 ((cfg 74).getD 2 []) ((ebind 74).getD 2 []) ∧ (74, 2) ∉ knownBad := by
  constructor
  · apply rowOkB_sound; decide +kernel
  · decide

end C11
