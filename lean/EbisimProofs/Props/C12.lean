import EbisimProofs.Lemmas.MaxPrinciple
import Mathlib.Analysis.SpecialFunctions.Log.Deriv

/-! # C12 — radial Poisson solver: exact on quadratics, grounded at the wall, linear

Model: `Radial.solve/tdma`, `Radial.fdNonuniform/fdUniform`, `Radial.potentialNonuniform/Uniform`
(hand model of `_radial_dist.py`, tied to the code by the bit-exact correspondence of
`tools/props/c12.py`).  All statements are over ℝ and hold for every system size / grid. -/
namespace C12
open Radial Num

/-- **Thomas solver**: for every strictly diagonally dominant tridiagonal system (any size) the
returned `x` satisfies `M x = b`, row by row. -/
theorem tdma_correct (l d u b : List ℝ) (h : DiagDom (mkRows l d u b)) :
    mulTri 0 (mkRows l d u b) (tdma l d u b) = (mkRows l d u b).map (·.b) :=
  solve_correct_of_diagDom _ h

/-- strictly increasing grid starting at a non-negative radius -/
def GridOk (r : List ℝ) : Prop := r.Pairwise (· < ·) ∧ ∀ h : 0 < r.length, 0 ≤ r[0]

theorem grid_steps (r : List ℝ) (hg : GridOk r) (i : ℕ) (hi : 1 ≤ i) (h : i + 1 < r.length) :
    0 < r[i] ∧ 0 < r[i] - r[i - 1] ∧ 0 < r[i + 1] - r[i] := by
  have hp := List.pairwise_iff_getElem.mp hg.1
  have h0 : 0 ≤ r[0] := hg.2 (by omega)
  have h1 : r[0] < r[i] := hp 0 i (by omega) (by omega) (by omega)
  have h2 : r[i - 1] < r[i] := hp (i - 1) i (by omega) (by omega) (by omega)
  have h3 : r[i] < r[i + 1] := hp i (i + 1) (by omega) (by omega) (by omega)
  exact ⟨by linarith, by linarith, by linarith⟩

/-- **interior rows of the finite-difference operator annihilate constants and reproduce the
cylindrical Laplacian of r² (= 4) exactly**, on every strictly increasing grid. `b` is any
right-hand side (it does not enter `M x`). -/
theorem fd_interior_exact (r b : List ℝ) (hg : GridOk r) (hb : b.length = r.length)
    (i : ℕ) (hi : 1 ≤ i) (h : i + 1 < r.length) :
    ∃ (h1 : i < (mulTri 0 (withRhs (fdNonuniform r) b) (r.map fun _ => (1 : ℝ))).length)
      (h2 : i < (mulTri 0 (withRhs (fdNonuniform r) b) (r.map fun x => x ^ 2)).length),
      (mulTri 0 (withRhs (fdNonuniform r) b) (r.map fun _ => (1 : ℝ)))[i] = 0 ∧
      (mulTri 0 (withRhs (fdNonuniform r) b) (r.map fun x => x ^ 2))[i] = 4 := by
  have hlen : (fdNonuniform r).length = r.length := fdNonuniform_length r (by omega)
  obtain ⟨hr, ha, hbb⟩ := grid_steps r hg i hi h
  obtain ⟨h1, e1⟩ := mulTri_withRhs_getElem (fdNonuniform r) b (r.map fun _ => (1 : ℝ)) (by simp [hlen]) (by rw [hlen, hb]) i hi
    (by simpa using h)
  obtain ⟨h2, e2⟩ := mulTri_withRhs_getElem (fdNonuniform r) b (r.map fun x => x ^ 2) (by simp [hlen]) (by rw [hlen, hb]) i hi
    (by simpa using h)
  refine ⟨h1, h2, ?_, ?_⟩
  · rw [e1, fdNonuniform_getElem r i hi h]
    simpa using fdRow_sum_eq_zero _ _ _ hr ha hbb
  · rw [e2, fdNonuniform_getElem r i hi h]
    simpa using fdRow_quadratic r[i] (r[i] - r[i - 1]) (r[i + 1] - r[i]) hr ha hbb

/-- **the uniform and the non-uniform construction coincide on uniform grids** `r_k = k h` -/
theorem fd_uniform_eq_nonuniform (h : ℝ) (hh : 0 < h) (n : ℕ) :
    fdUniform (ugrid h 0 (n + 2)) = fdNonuniform (ugrid h 0 (n + 2)) := by
  have e : ugrid h 0 (n + 2) = ((0 : ℕ) : ℝ) * h :: ((0 + 1 : ℕ) : ℝ) * h :: ugrid h (0 + 1 + 1) n := rfl
  rw [e, fdUniform_eq, ugrid_length, ← e, show ((0 + 1 : ℕ) : ℝ) * h - ((0 : ℕ) : ℝ) * h = h by push_cast; ring]

/-- **the potential vanishes at the outer grid point for every charge distribution**,
including charge on the last node, on every grid with at least two nodes -/
theorem wall_zero (r rho : List ℝ) (hr : 2 ≤ r.length) (hl : rho.length = r.length) :
    (potentialNonuniform r rho).getLast? = some 0 ∧ (potentialUniform r rho).getLast? = some 0 := by
  refine ⟨potentialNonuniform_getLast? r rho hr hl, ?_⟩
  match r, hr with
  | r0 :: r1 :: rest, _ =>
    rw [potentialUniform_eq]
    exact potentialNonuniform_getLast? _ rho (by simp) (by simpa using hl)

/-- **the potential depends linearly on the charge density** -/
theorem potential_linear (α β : ℝ) (r rho1 rho2 : List ℝ) (hr : 2 ≤ r.length)
    (h1 : rho1.length = r.length) (h2 : rho2.length = r.length) :
    potentialNonuniform r (List.zipWith (fun x y => α * x + β * y) rho1 rho2) =
      List.zipWith (fun x y => α * x + β * y) (potentialNonuniform r rho1) (potentialNonuniform r rho2) := by
  rw [potentialNonuniform, poissonRhs_linear α β rho1 rho2 (h1.trans h2.symm)]
  have hc := fdNonuniform_length r hr
  exact solve_withRhs_linear α β _ _ _ (by simp [h1, hc]) (by simp [h2, hc])

/-! ## the solver solves the (weakly dominant) finite-difference system; maximum principle -/

/-- **the computed potential solves the finite-difference Poisson system exactly** (over ℝ), on
every admissible grid and for every charge distribution: the system is only *weakly* diagonally
dominant, but the Thomas algorithm never meets a zero pivot on it -/
theorem potential_solves_fd (r rho : List ℝ) (hg : GridMP r) (hl : rho.length = r.length) :
    mulTri 0 (withRhs (fdNonuniform r) (poissonRhs rho)) (potentialNonuniform r rho) = poissonRhs rho := by
  rw [mulTri_withRhs 0 _ _ _ (by simp [fdNonuniform_length r hg.two_le, hl])]
  exact potentialNonuniform_solves r rho hg hl

/-- **discrete maximum principle for the potential**: a charge density that is nowhere positive
(electrons) gives a potential that never decreases outward and is nowhere positive; with the wall
value 0 (`wall_zero`) it is a well whose minimum is on the axis -/
theorem potential_monotone (r rho : List ℝ) (hg : GridMP r) (hl : rho.length = r.length)
    (hrho : ∀ v ∈ rho, v ≤ 0) :
    List.Pairwise (· ≤ ·) (potentialNonuniform r rho) ∧ ∀ v ∈ potentialNonuniform r rho, v ≤ 0 :=
  fd_well hg (by simp [hl]) (potentialNonuniform_length r rho hg.two_le hl)
    (potentialNonuniform_solves r rho hg hl) (poissonRhs_nonneg rho hrho) (wall_zero r rho hg.two_le hl).1

/-- **monotone dependence on the charge**: if `ρ₁ ≤ ρ₂` at every node then `φ₁ ≤ φ₂` at every node
(adding positive charge never lowers the potential anywhere) -/
theorem potential_mono_charge (r rho1 rho2 : List ℝ) (hg : GridMP r)
    (h1 : rho1.length = r.length) (h2 : rho2.length = r.length)
    (hle : ∀ p ∈ List.zip rho1 rho2, p.1 ≤ p.2) :
    ∀ p ∈ List.zip (potentialNonuniform r rho1) (potentialNonuniform r rho2), p.1 ≤ p.2 := by
  -- `φ₁ − φ₂` is the potential of `ρ₁ − ρ₂ ≤ 0`
  have hneg : ∀ v ∈ List.zipWith (fun x y => 1 * x + -1 * y) rho1 rho2, v ≤ 0 := fun v hv => by
    rw [← List.map_uncurry_zip_eq_zipWith] at hv
    obtain ⟨p, hp, rfl⟩ := List.mem_map.mp hv
    simp only [Function.uncurry]
    linarith [hle p hp]
  have hm := (potential_monotone r _ hg (by simp [h1, h2]) hneg).2
  rw [potential_linear 1 (-1) r rho1 rho2 hg.two_le h1 h2, ← List.map_uncurry_zip_eq_zipWith] at hm
  intro p hp
  have := hm _ (List.mem_map_of_mem hp)
  simp only [Function.uncurry] at this
  linarith

-- non-vacuity: a non-uniform grid that meets the grid condition of the maximum principle
example : GridMP [0, 1, 2, 3.5, 6] := by
  simp only [GridMP, StepsOk]; norm_num

/-- **the uniform-grid potential solves its finite-difference system exactly**, for every positive step and every number of nodes -/
theorem potential_uniform_solves_fd (r0 r1 : ℝ) (rest rho : List ℝ) (h01 : r0 < r1) (hl : rho.length = rest.length + 2) :
    mulTri 0 (withRhs (fdUniform (r0 :: r1 :: rest)) (poissonRhs rho)) (potentialUniform (r0 :: r1 :: rest) rho)
      = poissonRhs rho := by
  rw [fdUniform_eq, potentialUniform_eq]
  exact potential_solves_fd _ rho (gridMP_ugrid (sub_pos.2 h01) _) (by simp [hl])

/-- **and obeys the same maximum principle** (`potential_monotone`) -/
theorem potential_uniform_monotone (r0 r1 : ℝ) (rest rho : List ℝ) (h01 : r0 < r1) (hl : rho.length = rest.length + 2)
    (hrho : ∀ v ∈ rho, v ≤ 0) :
    List.Pairwise (· ≤ ·) (potentialUniform (r0 :: r1 :: rest) rho) ∧ ∀ v ∈ potentialUniform (r0 :: r1 :: rest) rho, v ≤ 0 := by
  rw [potentialUniform_eq]
  exact potential_monotone _ rho (gridMP_ugrid (sub_pos.2 h01) _) (by simp [hl]) hrho

/-! ## discrete Gauss law (uniform grids) -/

theorem fdUniform_getElem (r0 r1 : ℝ) (rest : List ℝ) (i : ℕ) (hi : 1 ≤ i) (h : i + 1 < rest.length + 2)
    (h' : i < (fdUniform (r0 :: r1 :: rest)).length) : (fdUniform (r0 :: r1 :: rest))[i] =
      ((1 - 0.5 / (i : ℝ)) / (r1 - r0) ^ 2, -2 / (r1 - r0) ^ 2, (1 + 0.5 / (i : ℝ)) / (r1 - r0) ^ 2) := by
  rw [List.getElem_of_eq (fdUniform_eq r0 r1 rest), fdNonuniform_getElem _ i hi (by rwa [ugrid_length])]
  simp only [ugrid_getElem, Nat.zero_add]
  rw [show ((i + 1 : ℕ) : ℝ) * (r1 - r0) - (i : ℝ) * (r1 - r0) = r1 - r0 by push_cast; ring,
    show (i : ℝ) * (r1 - r0) - ((i - 1 : ℕ) : ℝ) * (r1 - r0) = r1 - r0 by rw [Nat.cast_sub hi]; push_cast; ring]
  exact fdRow_uniform _ _ (by positivity)

/-- a row `((1 − ½/i)/h², −2/h², (1 + ½/i)/h²)` read as a flux balance -/
theorem flux_balance {i h l m u b : ℝ} (hi : 0 < i) (hh : h ≠ 0)
    (e : (1 - 0.5 / i) / h ^ 2 * l + -2 / h ^ 2 * m + (1 + 0.5 / i) / h ^ 2 * u = b) :
    (i + 1 / 2) * (u - m) = (i - 1 / 2) * (m - l) + i * h ^ 2 * b := by
  rw [← e]
  field_simp
  ring

/-- **discrete Gauss law on uniform grids** (differential form): every interior row of the uniform
finite-difference system is a flux balance — the flux `(i + ½)(φ_{i+1} − φ_i)` through the cell face
outside node `i` equals the flux `(i − ½)(φ_i − φ_{i−1})` through the face inside plus the charge term
`i h² b_i` of the node (`b = −ρ/ε₀`). Outside the charge (`b_i = 0`) the flux is conserved from face
to face: `φ_{i+1} − φ_i = F/(i + ½)`, the finite-difference form of the logarithmic Gauss-law
potential (`ln((i+1)/i) = 1/(i+½) + O(i⁻³)`). -/
theorem gauss_law_uniform (r0 r1 : ℝ) (rest b x : List ℝ) (h01 : r0 < r1)
    (hb : b.length = rest.length + 2) (hx : x.length = rest.length + 2)
    (hsol : mulTri 0 (withRhs (fdUniform (r0 :: r1 :: rest)) b) x = b)
    (i : ℕ) (hi : 1 ≤ i) (h : i + 1 < rest.length + 2) :
    ((i : ℝ) + 1 / 2) * (x[i + 1] - x[i]) =
      ((i : ℝ) - 1 / 2) * (x[i] - x[i - 1]) + (i : ℝ) * (r1 - r0) ^ 2 * b[i] := by
  obtain ⟨_, e⟩ := mulTri_withRhs_getElem (fdUniform (r0 :: r1 :: rest)) b x (by rw [fdUniform_length, hx]) (by rw [fdUniform_length, hb]) i hi (by omega)
  rw [fdUniform_getElem r0 r1 rest i hi h, List.getElem_of_eq hsol] at e
  exact flux_balance (by exact_mod_cast hi) (sub_pos.2 h01).ne' e.symm

/-- **discrete Gauss law, integrated form**: outside the charge (`b_i = 0` for all nodes `i ≥ K`, `K ≥ 1`) the
flux through every cell face equals the flux through the face just inside node `K`, i.e. the enclosed
charge: `(i + ½)(φ_{i+1} − φ_i) = (K − ½)(φ_K − φ_{K−1})` for every `i ≥ K` -/
theorem gauss_flux_conserved (r0 r1 : ℝ) (rest b x : List ℝ) (h01 : r0 < r1)
    (hb : b.length = rest.length + 2) (hx : x.length = rest.length + 2)
    (hsol : mulTri 0 (withRhs (fdUniform (r0 :: r1 :: rest)) b) x = b)
    (K : ℕ) (hK : 1 ≤ K) (hzero : ∀ i, K ≤ i → ∀ h : i < b.length, b[i] = 0) :
    ∀ i, K ≤ i → i + 1 < rest.length + 2 →
      ((i : ℝ) + 1 / 2) * (x.getD (i + 1) 0 - x.getD i 0) = ((K : ℝ) - 1 / 2) * (x.getD K 0 - x.getD (K - 1) 0) := by
  -- a row without charge: the flux through the face outside node `j` is the flux through the face inside it
  have hrow : ∀ j, K ≤ j → j + 1 < rest.length + 2 →
      ((j : ℝ) + 1 / 2) * (x.getD (j + 1) 0 - x.getD j 0) = ((j : ℝ) - 1 / 2) * (x.getD j 0 - x.getD (j - 1) 0) := by
    intro j hKj h
    have g := gauss_law_uniform r0 r1 rest b x h01 hb hx hsol j (by omega) h
    rw [hzero j hKj (by omega), mul_zero, add_zero] at g
    simpa only [List.getElem_eq_getD (0 : ℝ)] using g
  intro i hKi
  induction i, hKi using Nat.le_induction with
  | base => exact hrow K le_rfl
  | succ i hKi ih =>
    intro h
    rw [hrow (i + 1) (by omega) h, Nat.add_sub_cancel, ← ih (by omega)]
    push_cast
    ring

/-- the discrete Gauss law holds for the potential `radial_potential_uniform_grid` computes — for every
charge distribution, step and number of nodes (no hypothesis on the solution: `potential_uniform_solves_fd`) -/
theorem gauss_law_potential_uniform (r0 r1 : ℝ) (rest rho : List ℝ) (h01 : r0 < r1) (hl : rho.length = rest.length + 2)
    (i : ℕ) (hi : 1 ≤ i) (h : i + 1 < rest.length + 2) :
    ((i : ℝ) + 1 / 2) * ((potentialUniform (r0 :: r1 :: rest) rho).getD (i + 1) 0 - (potentialUniform (r0 :: r1 :: rest) rho).getD i 0) =
      ((i : ℝ) - 1 / 2) * ((potentialUniform (r0 :: r1 :: rest) rho).getD i 0 - (potentialUniform (r0 :: r1 :: rest) rho).getD (i - 1) 0)
        + (i : ℝ) * (r1 - r0) ^ 2 * (poissonRhs rho).getD i 0 := by
  have hbl : (poissonRhs rho).length = rest.length + 2 := by simp [hl]
  have hxl : (potentialUniform (r0 :: r1 :: rest) rho).length = rest.length + 2 := by
    rw [potentialUniform_eq, potentialNonuniform_length _ rho (by simp) (by simp [hl]), ugrid_length]
  have g := gauss_law_uniform r0 r1 rest (poissonRhs rho) (potentialUniform (r0 :: r1 :: rest) rho) h01 hbl hxl
    (potential_uniform_solves_fd r0 r1 rest rho h01 hl) i hi h
  simp only [List.getElem_eq_getD (0 : ℝ)] at g
  exact g

/-- `log((1+t)/(1−t)) = 2t + 2t³/3 + …`: the two Taylor remainders of `log(1 ∓ t)` are at most `t⁴/(1−t) ≤ t³/2` each -/
theorem abs_log_ratio_sub_le {t : ℝ} (h0 : 0 < t) (h3 : t ≤ 1 / 3) :
    |Real.log ((1 + t) / (1 - t)) - 2 * t| ≤ 2 * t ^ 3 := by
  have habs : |t| < 1 := by rw [abs_of_pos h0]; linarith
  have h1t : 0 < 1 - t := by linarith
  rw [Real.log_div (by linarith) h1t.ne']
  have b1 := Real.abs_log_sub_add_sum_range_le habs 3
  have b2 := Real.abs_log_sub_add_sum_range_le (x := -t) (by rwa [abs_neg]) 3
  simp only [Finset.sum_range_succ, Finset.sum_range_zero, abs_neg, abs_of_pos h0, sub_neg_eq_add] at b1 b2
  have hq : t ^ 4 / (1 - t) ≤ t ^ 3 / 2 := by
    rw [div_le_div_iff₀ h1t two_pos]
    calc t ^ 4 * 2 = t ^ 3 * (2 * t) := by ring
      _ ≤ t ^ 3 * (1 - t) := mul_le_mul_of_nonneg_left (by linarith) (pow_pos h0 3).le
  have e : (-t) ^ 3 = -t ^ 3 := by ring
  have e' : (-t) ^ 2 = t ^ 2 := by ring
  rw [abs_le] at b1 b2 ⊢
  norm_num [e, e'] at b1 b2
  constructor
  · linarith [b1.2, b2.1, pow_pos h0 3]
  · linarith [b1.1, b2.2, pow_pos h0 3]

/-- `ln((i+1)/i)` and the finite-difference flux step `1/(i+½)` agree to third order: with `t = 1/(2i+1)`,
`(i+1)/i = (1+t)/(1−t)` and `ln(1+t) − ln(1−t) = 2t + 2t³/3 + O(t⁴)` -/
theorem log_ratio_flux_step (i : ℕ) (hi : 1 ≤ i) :
    |Real.log (((i : ℝ) + 1) / i) - 1 / ((i : ℝ) + 1 / 2)| ≤ 1 / (4 * (i : ℝ) ^ 3) := by
  have hiR : (1 : ℝ) ≤ i := by exact_mod_cast hi
  have hi0 : (0 : ℝ) < i := by linarith
  have ht3 : 1 / (2 * (i : ℝ) + 1) ≤ 1 / 3 := one_div_le_one_div_of_le (by norm_num) (by linarith)
  have h := abs_log_ratio_sub_le (t := 1 / (2 * (i : ℝ) + 1)) (by positivity) ht3
  have hratio : (1 + 1 / (2 * (i : ℝ) + 1)) / (1 - 1 / (2 * (i : ℝ) + 1)) = ((i : ℝ) + 1) / i := by
    field_simp
    ring
  have e2 : 2 * (1 / (2 * (i : ℝ) + 1)) = 1 / ((i : ℝ) + 1 / 2) := by field_simp
  rw [hratio, e2] at h
  refine h.trans ?_
  rw [one_div_pow, mul_one_div, div_le_div_iff₀ (by positivity) (by positivity)]
  linarith [pow_pos hi0 2, show (2 * (i : ℝ) + 1) ^ 3 = 8 * i ^ 3 + 12 * i ^ 2 + 6 * i + 1 by ring]

/-- **the potential follows the logarithmic Gauss-law potential outside the charge** (uniform grids): with
`F = (K − ½)(φ_K − φ_{K−1})` the flux through the face just inside the first charge-free node `K` (the enclosed
line charge, `gauss_flux_conserved`), every step of the computed solution outside the charge differs from the
step `F·ln(r_{i+1}/r_i) = F·ln((i+1)/i)` of the logarithmic potential with that line charge by at most
`|F| / (4 i³)` — third order in the inverse node index, i.e. second-order agreement of the potentials -/
theorem gauss_log_potential (r0 r1 : ℝ) (rest b x : List ℝ) (h01 : r0 < r1)
    (hb : b.length = rest.length + 2) (hx : x.length = rest.length + 2)
    (hsol : mulTri 0 (withRhs (fdUniform (r0 :: r1 :: rest)) b) x = b)
    (K : ℕ) (hK : 1 ≤ K) (hzero : ∀ i, K ≤ i → ∀ h : i < b.length, b[i] = 0)
    (i : ℕ) (hKi : K ≤ i) (h : i + 1 < rest.length + 2) :
    |(x.getD (i + 1) 0 - x.getD i 0)
        - ((K : ℝ) - 1 / 2) * (x.getD K 0 - x.getD (K - 1) 0) * Real.log (((i : ℝ) + 1) / i)|
      ≤ |((K : ℝ) - 1 / 2) * (x.getD K 0 - x.getD (K - 1) 0)| / (4 * (i : ℝ) ^ 3) := by
  have hflux := gauss_flux_conserved r0 r1 rest b x h01 hb hx hsol K hK hzero i hKi h
  set F := ((K : ℝ) - 1 / 2) * (x.getD K 0 - x.getD (K - 1) 0) with hF
  have hi1 : 1 ≤ i := by omega
  have hpos : (0 : ℝ) < (i : ℝ) + 1 / 2 := by positivity
  have hstep : x.getD (i + 1) 0 - x.getD i 0 = F * (1 / ((i : ℝ) + 1 / 2)) := by
    rw [← hflux]; field_simp
  have hl := log_ratio_flux_step i hi1
  rw [hstep, ← mul_sub, abs_mul]
  calc |F| * |1 / ((i : ℝ) + 1 / 2) - Real.log (((i : ℝ) + 1) / i)|
      ≤ |F| * (1 / (4 * (i : ℝ) ^ 3)) :=
        mul_le_mul_of_nonneg_left (by rw [abs_sub_comm]; exact hl) (abs_nonneg _)
    _ = |F| / (4 * (i : ℝ) ^ 3) := by ring

/-- `potential_linear` for the uniform construction -/
theorem potential_uniform_linear (α β : ℝ) (r0 r1 : ℝ) (rest rho1 rho2 : List ℝ)
    (h1 : rho1.length = rest.length + 2) (h2 : rho2.length = rest.length + 2) :
    potentialUniform (r0 :: r1 :: rest) (List.zipWith (fun x y => α * x + β * y) rho1 rho2) =
      List.zipWith (fun x y => α * x + β * y) (potentialUniform (r0 :: r1 :: rest) rho1) (potentialUniform (r0 :: r1 :: rest) rho2) := by
  simp only [potentialUniform_eq]
  exact potential_linear α β _ rho1 rho2 (by simp) (by simp [h1]) (by simp [h2])

/-- **monotone dependence on the charge, uniform construction**: `ρ₁ ≤ ρ₂` nodewise implies `φ₁ ≤ φ₂` nodewise -/
theorem potential_uniform_mono_charge (r0 r1 : ℝ) (rest rho1 rho2 : List ℝ) (h01 : r0 < r1)
    (h1 : rho1.length = rest.length + 2) (h2 : rho2.length = rest.length + 2)
    (hle : ∀ p ∈ List.zip rho1 rho2, p.1 ≤ p.2) :
    ∀ p ∈ List.zip (potentialUniform (r0 :: r1 :: rest) rho1) (potentialUniform (r0 :: r1 :: rest) rho2), p.1 ≤ p.2 := by
  simp only [potentialUniform_eq]
  exact potential_mono_charge _ rho1 rho2 (gridMP_ugrid (sub_pos.2 h01) _) (by simp [h1]) (by simp [h2]) hle

-- non-vacuity: `GridOk` and `DiagDom` are inhabited
example : GridOk [0, 1, 3] := by
  refine ⟨by simp [List.pairwise_cons], fun _ => by simp⟩

example : DiagDom (mkRows [0, 1] [3, 3] [1, 0] [1, 1] : List (Row ℝ)) := by
  intro r hr; simp [mkRows] at hr; rcases hr with rfl | rfl <;> norm_num

end C12
