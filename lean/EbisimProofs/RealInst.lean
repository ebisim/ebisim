import EbisimModel.Num
import Mathlib.Analysis.SpecialFunctions.Pow.Real
import Mathlib.Tactic

/-! The real-number reading of the model: the arithmetic classes of `Num ℝ` are Mathlib's own
instances, so `ring`, `field_simp`, `positivity`, `linarith` work on unfolded model terms. -/

noncomputable instance : Num ℝ where
  exp := Real.exp
  log := Real.log
  sqrt := Real.sqrt
  rpow := Real.rpow
  log10 := fun x => Real.log x / Real.log 10
  ceil := fun x => (Int.ceil x : ℝ)
  floor := fun x => (Int.floor x : ℝ)
  dlt := fun _ _ => Classical.propDecidable _
  dle := fun _ _ => Classical.propDecidable _

@[simp] theorem Num.lit_real (n : ℕ) : (Num.lit n : ℝ) = (n : ℝ) := rfl
@[simp] theorem Transc.rpow_real (x y : ℝ) : Transc.rpow x y = x ^ y := rfl
@[simp] theorem Transc.exp_real (x : ℝ) : Transc.exp x = Real.exp x := rfl
@[simp] theorem Transc.log_real (x : ℝ) : Transc.log x = Real.log x := rfl
@[simp] theorem Transc.sqrt_real (x : ℝ) : Transc.sqrt x = Real.sqrt x := rfl
@[simp] theorem Transc.log10_real (x : ℝ) : Transc.log10 x = Real.log x / Real.log 10 := rfl
@[simp] theorem Num.sq_real (x : ℝ) : Num.sq x = x ^ 2 := by simp [Num.sq, pow_two]
@[simp] theorem Num.powN_real (x : ℝ) : ∀ n : ℕ, Num.powN x n = x ^ n
  | 0 => by simp [Num.powN]
  | 1 => by simp [Num.powN]
  | n + 2 => by rw [Num.powN, Num.powN_real x (n + 1)]; ring
theorem Num.max'_real (a b : ℝ) : Num.max' a b = max a b := (max_def_lt a b).symm
theorem Num.min'_real (a b : ℝ) : Num.min' a b = min a b := by
  rw [min_comm, min_def_lt]
  rfl
theorem Num.abs'_real (a : ℝ) : Num.abs' a = |a| := by
  unfold Num.abs'; simp only [Num.lit_real, Nat.cast_zero]; split_ifs with h
  · exact (abs_of_neg h).symm
  · exact (abs_of_nonneg (not_lt.mp h)).symm
theorem Num.ofScaled_real (n k : ℕ) : (Num.ofScaled n k : ℝ) = (n : ℝ) / (2 : ℝ) ^ k := by
  simp [Num.ofScaled]

theorem Num.ofScaled_pos (n k : ℕ) (h : 0 < n) : (0 : ℝ) < Num.ofScaled n k := by
  rw [Num.ofScaled_real]; positivity

theorem Num.ofScaled_nonneg (n k : ℕ) : (0 : ℝ) ≤ Num.ofScaled n k := by
  rw [Num.ofScaled_real]; positivity

theorem Num.ofScaled_le_iff (a b k : ℕ) : (Num.ofScaled a k : ℝ) ≤ Num.ofScaled b k ↔ a ≤ b := by
  rw [Num.ofScaled_real, Num.ofScaled_real, div_le_div_iff_of_pos_right (by positivity)]
  exact Nat.cast_le

theorem Xs.ofScaled_lt_iff (a b k : ℕ) : (Num.ofScaled a k : ℝ) < Num.ofScaled b k ↔ a < b :=
  lt_iff_lt_of_le_iff_le (Num.ofScaled_le_iff b a k)

/-! idioms of the generated kernels: float literals and the clamp `if res < 0: res = 0.0` -/
theorem Num.half_real : (0.5 : ℝ) = 1 / 2 := by norm_num
theorem Num.three_halves_real : (1.5 : ℝ) = 3 / 2 := by norm_num
theorem Num.zero_float_real : (0.0 : ℝ) = 0 := by norm_num
theorem Num.clamp_real (x : ℝ) : (if x < 0 then (0.0 : ℝ) else x) = max 0 x := by
  rw [max_comm, max_def_lt, Num.zero_float_real]
