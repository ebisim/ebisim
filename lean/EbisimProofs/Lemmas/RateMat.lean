import EbisimProofs.Lemmas.MatExp
import EbisimProofs.RealInst
import EbisimModel.Model.Basic

/-! Rate-matrix arrangement (`eixs_mat`, `rrxs_mat`, `drxs_mat`) as Mathlib matrices, bridged to the list model that the
driver executes, together with the bridge for the list operations from which `basic_simulation` builds `_jac` (sum, scaling,
zeroed neutral row; C01 puts them together).

`Lemmas.MatExp` is imported first although nothing here uses it. Which instance a `/`, a `*` or a literal on `ℝ` elaborates to — a field
of `Num ℝ` (`Num.div`, `Num.sci`) or Mathlib's own — is decided by which was loaded last, and several statements of C01, C02 and C10 elaborate
with the `Num` fields, i.e. with the Mathlib part loaded before `EbisimModel.Num`; the two are equal by `rfl`, but with another import order the
statements are other terms, and `rw`/`simp` across files stop matching. -/
open Matrix
namespace RateMat

/-- `np.diag(xs[:-1], -1) - np.diag(xs)` -/
def eiM {n : ℕ} (x : Fin n → ℝ) : Matrix (Fin n) (Fin n) ℝ :=
  fun i j => (if (i : ℕ) = (j : ℕ) + 1 then x j else 0) - (if i = j then x j else 0)

/-- `np.diag(xs[1:], 1) - np.diag(xs)` -/
def recM {n : ℕ} (x : Fin n → ℝ) : Matrix (Fin n) (Fin n) ℝ :=
  fun i j => (if (i : ℕ) + 1 = (j : ℕ) then x j else 0) - (if i = j then x j else 0)

/-! One matrix for ionisation and recombination: column `j` loses `x j` on the diagonal and deposits it in the row `i` with `R i j`, if there is one. -/

def xfer {ι : Type} [DecidableEq ι] (R : ι → ι → Prop) [DecidableRel R] (x : ι → ℝ) : Matrix ι ι ℝ :=
  fun i j => (if R i j then x j else 0) - (if i = j then x j else 0)

theorem eiM_eq {n : ℕ} (x : Fin n → ℝ) : eiM x = xfer (fun i j : Fin n => (i : ℕ) = (j : ℕ) + 1) x := rfl
theorem recM_eq {n : ℕ} (x : Fin n → ℝ) : recM x = xfer (fun i j : Fin n => (i : ℕ) + 1 = (j : ℕ)) x := rfl

section xfer
variable {ι : Type} [DecidableEq ι] {R : ι → ι → Prop} [DecidableRel R] (x N : ι → ℝ)

theorem xfer_structure (hR : ∀ i, ¬ R i i) (hx : ∀ k, 0 ≤ x k) (i j : ι) :
    (i ≠ j → 0 ≤ xfer R x i j) ∧ xfer R x i i ≤ 0 ∧ (¬ R i j → i ≠ j → xfer R x i j = 0) := by
  refine ⟨fun hij => ?_, ?_, fun h1 h2 => ?_⟩
  · simp only [xfer, if_neg hij, sub_zero]
    split_ifs
    · exact hx j
    · exact le_refl _
  · simp only [xfer, if_neg (hR i), if_true, zero_sub, neg_nonpos]
    exact hx i
  · simp only [xfer, if_neg h1, if_neg h2, sub_zero]

variable [Fintype ι]

theorem xfer_colsum (j : ι) : ∑ i, xfer R x i j = (∑ i, if R i j then x j else 0) - x j := by
  simp only [xfer, Finset.sum_sub_distrib, Finset.sum_ite_eq', Finset.mem_univ, if_true]

theorem xfer_colsum_of (hR : ∀ a b j, R a j → R b j → a = b) {i j : ι} (h : R i j) :
    ∑ i, xfer R x i j = 0 := by
  rw [xfer_colsum, Fintype.sum_eq_single i fun b hb => if_neg fun h' => hb (hR b i j h' h), if_pos h, sub_self]

theorem xfer_colsum_none {j : ι} (h : ∀ i, ¬ R i j) : ∑ i, xfer R x i j = -x j := by
  rw [xfer_colsum, Finset.sum_eq_zero fun i _ => if_neg (h i), zero_sub]

theorem xfer_colsum_zero_iff (hR : ∀ a b j, R a j → R b j → a = b) :
    (∀ j, ∑ i, xfer R x i j = 0) ↔ ∀ j, (∀ i, ¬ R i j) → x j = 0 := by
  refine ⟨fun h j hj => ?_, fun h j => ?_⟩
  · rw [← neg_eq_zero, ← xfer_colsum_none x hj, h j]
  · by_cases hj : ∃ i, R i j
    · obtain ⟨i, hi⟩ := hj
      exact xfer_colsum_of x hR hi
    · rw [xfer_colsum_none x (not_exists.mp hj), h j (not_exists.mp hj), neg_zero]

theorem xfer_mulVec (k : ι) :
    (xfer R x *ᵥ N) k = (∑ j, if R k j then x j * N j else 0) - x k * N k := by
  simp only [Matrix.mulVec, dotProduct, xfer, sub_mul, Finset.sum_sub_distrib, ite_mul, zero_mul,
    Finset.sum_ite_eq, Finset.mem_univ, if_true]

theorem xfer_mulVec_of (hR : ∀ k a b, R k a → R k b → a = b) {k j : ι} (h : R k j) :
    (xfer R x *ᵥ N) k = x j * N j - x k * N k := by
  rw [xfer_mulVec, Fintype.sum_eq_single j fun b hb => if_neg fun h' => hb (hR k b j h' h), if_pos h]

theorem xfer_mulVec_none {k : ι} (h : ∀ j, ¬ R k j) : (xfer R x *ᵥ N) k = 0 - x k * N k := by
  rw [xfer_mulVec, Finset.sum_eq_zero fun j _ => if_neg (h j)]

end xfer

/-- a list of rows read as an `n × n` matrix (missing entries read 0) -/
def toM (n : ℕ) (m : List (List ℝ)) : Matrix (Fin n) (Fin n) ℝ := fun i j => (m.getD i []).getD j 0
def toV (n : ℕ) (l : List ℝ) : Fin n → ℝ := fun k => l.getD k 0

theorem toV_of_getElem? {n : ℕ} {l : List ℝ} {k : Fin n} {x : ℝ} (h : l[(k : ℕ)]? = some x) : toV n l k = x := by
  rw [toV, List.getD_eq_getElem?_getD, h, Option.getD_some]

/-- no length condition: an entry that is missing reads 0 -/
theorem toV_nonneg {n : ℕ} {l : List ℝ} (h : ∀ (i : ℕ) (hi : i < l.length), 0 ≤ l[i]) (k : Fin n) : 0 ≤ toV n l k := by
  rw [toV, List.getD_eq_getElem?_getD]
  by_cases hk : (k : ℕ) < l.length
  · rw [List.getElem?_eq_getElem hk]
    exact h k hk
  · rw [List.getElem?_eq_none (not_lt.mp hk)]
    exact le_refl _

/-- the shape of `Xs.eiMat`, `Xs.recMat` -/
def tab {α : Type} (n : ℕ) (e : ℕ → ℕ → α) : List (List α) :=
  (List.range n).map fun i => (List.range n).map fun j => e i j

theorem tab_column {α : Type} (n : ℕ) (e : ℕ → ℕ → α) (j : ℕ) (hj : j < n) (d : α) :
    (tab n e).map (fun row => row.getD j d) = (List.range n).map fun i => e i j := by
  simp [tab, List.getD_eq_getElem?_getD, hj]

/-- the list of rows `m` is the full table of `M`: `n` rows of `n` entries, those of `M`. Stronger than `toM n m = M`, which is
not closed under `Basic.matAdd`: that is a `zipWith`, which truncates to the shorter operand, while `toM` reads a missing entry
as 0. The relation carries the shape along. -/
def Rep (n : ℕ) (m : List (List ℝ)) (M : Matrix (Fin n) (Fin n) ℝ) : Prop :=
  m = List.ofFn fun i => List.ofFn fun j => M i j

section Rep
variable {n : ℕ} {a b : List (List ℝ)} {A B : Matrix (Fin n) (Fin n) ℝ}

theorem Rep.toM (ha : Rep n a A) : toM n a = A := by
  subst ha
  funext i j
  simp [RateMat.toM, List.getD_eq_getElem?_getD]

theorem rep_tab {e : ℕ → ℕ → ℝ} (h : ∀ i j : Fin n, e i j = A i j) : Rep n (tab n e) A :=
  List.ext_getElem (by simp [tab]) fun i hi _ => List.ext_getElem (by simp [tab]) fun j hj _ => by
    simpa [tab] using h ⟨i, by simpa [tab] using hi⟩ ⟨j, by simpa [tab] using hj⟩

theorem Rep.add (ha : Rep n a A) (hb : Rep n b B) : Rep n (Basic.matAdd a b) (A + B) := by
  subst ha hb
  exact List.ext_getElem (by simp [Basic.matAdd]) fun i _ _ =>
    List.ext_getElem (by simp [Basic.matAdd]) fun j _ _ => by simp [Basic.matAdd]

theorem Rep.smul (c : ℝ) (ha : Rep n a A) : Rep n (Basic.matScale c a) (c • A) := by
  subst ha
  simp [Rep, Basic.matScale, List.map_ofFn, Function.comp_def]

/-- `xs_mat[0] = 0` zeroes the first row -/
theorem Rep.zeroRow0 (ha : Rep n a A) : Rep n (Basic.zeroRow0 a) (fun i j => if (i : ℕ) = 0 then 0 else A i j) := by
  subst ha
  cases n with
  | zero => simp [Rep, Basic.zeroRow0]
  | succ n => simp [Rep, Basic.zeroRow0, List.ofFn_succ, List.map_ofFn, Function.comp_def]

end Rep

theorem rep_eiMat {n : ℕ} {l : List ℝ} (h : l.length = n) : Rep n (Xs.eiMat l) (eiM (toV n l)) := by
  subst h
  exact rep_tab fun i j => by simp [eiM, toV, Fin.ext_iff]

theorem rep_recMat {n : ℕ} {l : List ℝ} (h : l.length = n) : Rep n (Xs.recMat l) (recM (toV n l)) := by
  subst h
  exact rep_tab fun i j => by simp [recM, toV, Fin.ext_iff]

/-! Column sums with nothing assumed of the scalars but `Add`: C02 takes them in binary64. -/

section Exact
variable {α : Type} [Add α]

theorem foldl_add_fixed (z : α) (f : ℕ → α) (l : List ℕ) (h : ∀ i ∈ l, z + f i = z) :
    (l.map f).foldl (· + ·) z = z := by
  induction l with
  | nil => rfl
  | cons a t ih =>
    rw [List.map_cons, List.foldl_cons, h a (by simp)]
    exact ih fun i hi => h i (by simp [hi])

/-- a column whose only entries that change the running sum `z` sit in rows `p`, `p + 1` and cancel there -/
theorem foldl_add_pair (z : α) (f : ℕ → α) (n p : ℕ) (hp : p + 1 < n)
    (h0 : ∀ i, i ≠ p → i ≠ p + 1 → z + f i = z) (hpair : z + f p + f (p + 1) = z) :
    ((List.range n).map f).foldl (· + ·) z = z := by
  obtain ⟨m, rfl⟩ : ∃ m, n = p + (2 + m) := ⟨n - p - 2, by omega⟩
  -- rows `0 … p-1`, then `p, p+1`, then the rest
  rw [List.range_eq_range', ← List.range'_append_1, ← List.range'_append_1, List.map_append, List.map_append,
    List.foldl_append, List.foldl_append,
    foldl_add_fixed z f _ fun i hi => h0 i (by simp at hi; omega) (by simp at hi; omega)]
  simp only [List.range', List.map_cons, List.map_nil, List.foldl_cons, List.foldl_nil, Nat.zero_add, hpair]
  exact foldl_add_fixed z f _ fun i hi => h0 i (by simp at hi; omega) (by simp at hi; omega)

end Exact

end RateMat
