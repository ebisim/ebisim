import EbisimProofs.Lemmas.Consts
import EbisimModel.Model.Xs

/-! Analytic facts about the Lotz / Gryzinski expression of `Xs.lotzTerm`, over ℝ. The occupied sub-shells of a table row as a list
(`Xs.occupied`): `Xs.minBindN` is its minimum over the binding energies, `Xs.rrN0` its maximum over the principal quantum numbers. The
shell fold `Xs.shellSum` as a `Finset.sum`, from which its threshold: unchanged while no occupied sub-shell is open at `E`, larger as soon
as one is. -/
namespace Xs
open Num Gen

theorem grys_pos (i t : ℝ) (hi : 0 < i) (ht : 0 < t) : 0 < grys i t := by
  unfold grys
  simp only [lit_real, powN_real, Transc.rpow_real, Nat.cast_ofNat, Nat.cast_one]
  have h1 : 0 < (i + t) * (2 + t) * (1 + i) ^ 2 / (t * (2 + t) * (1 + i) ^ 2 + i * (2 + i)) := by positivity
  have := Real.rpow_pos_of_pos h1 (1.5 : ℝ)
  positivity

/-- admissible coefficient triple: what `lotzTerm_pos` needs (`b < 1` keeps `1 − b e^{…}` positive); `none` is the `else` branch of `eixs_vec`,
taken for a charge state without a row in `ei_lotz_a/b/c` -/
def CoefOk : Option (ℝ × ℝ × ℝ) → Prop
  | some (a, b, c) => 0 < a ∧ 0 ≤ b ∧ b < 1 ∧ 0 ≤ c
  | none => True

theorem lotzTerm_none (E e : ℝ) (n : ℕ) :
    lotzTerm E n e none = lotzTerm E n e (some (4.5e-18, 0, 0)) := by
  simp [lotzTerm]

/-- **one sub-shell term is strictly positive above its threshold** -/
theorem lotzTerm_pos (E e : ℝ) (n : ℕ) (co : Option (ℝ × ℝ × ℝ)) (hco : CoefOk co)
    (hn : 0 < n) (he : 0 < e) (hE : e < E) : 0 < lotzTerm E n e co := by
  have key : ∀ a b c : ℝ, 0 < a → 0 ≤ b → b < 1 → 0 ≤ c → 0 < lotzTerm E n e (some (a, b, c)) := by
    intro a b c ha hb0 hb1 hc
    have hm := Const.M_E_EV_pos
    have hEpos : 0 < E := lt_trans he hE
    have hg : 0 < grys (e / Const.M_E_EV) (E / Const.M_E_EV) := grys_pos _ _ (by positivity) (by positivity)
    have hr : 1 < E / e := by rw [lt_div_iff₀ he]; linarith
    have hlog : 0 < Real.log (E / e) := Real.log_pos hr
    have hnr : (0 : ℝ) < (n : ℝ) := by exact_mod_cast hn
    have hexp : Real.exp (-c * (E / e - 1)) ≤ 1 :=
      Real.exp_le_one_iff.mpr (mul_nonpos_of_nonpos_of_nonneg (neg_nonpos.mpr hc) (by linarith))
    have hbr : 0 < 1 - b * Real.exp (-c * (E / e - 1)) := by
      have := mul_le_mul_of_nonneg_left hexp hb0
      linarith
    simp only [lotzTerm, lit_real, Transc.log_real, Transc.exp_real, Nat.cast_one]
    positivity
  match co, hco with
  | some (a, b, c), ⟨ha, hb0, hb1, hc⟩ => exact key a b c ha hb0 hb1 hc
  | none, _ =>
    rw [lotzTerm_none]
    exact key _ _ _ (by norm_num) le_rfl zero_lt_one le_rfl

/-- every occupied sub-shell of the row has a positive binding energy and an admissible coefficient; `sh` is the column of the heads, as in
`Xs.shellSum`. (`C11.RowOk` is another predicate.) -/
def RowOk (co : ℕ → Option (ℝ × ℝ × ℝ)) : List ℕ → List ℕ → ℕ → Prop
  | n :: ns, en :: es, sh => (0 < n → 0 < en ∧ CoefOk (co sh)) ∧ RowOk co ns es (sh + 1)
  | _, _, _ => True

theorem rowOk_iff (co : ℕ → Option (ℝ × ℝ × ℝ)) : ∀ (c e : List ℕ) (sh : ℕ), c.length = e.length →
    (RowOk co c e sh ↔ ∀ k, 0 < c.getD k 0 → 0 < e.getD k 0 ∧ CoefOk (co (sh + k)))
  | [], [], _, _ => by simp [RowOk]
  | n :: ns, en :: es, sh, hl => by
    rw [RowOk, rowOk_iff co ns es (sh + 1) (by simpa using hl), ← Nat.and_forall_add_one (p := fun k => 0 < (n :: ns).getD k 0 → _)]
    simp only [List.getD_cons_zero, List.getD_cons_succ, Nat.add_zero, Nat.add_right_comm sh 1, Nat.add_assoc sh]

/-- with `c` a row of occupations: the binding energies (`e` a row of `ebind`) or the principal quantum numbers (`e = shellN`) of the
occupied sub-shells -/
def occupied (c e : List ℕ) : List ℕ := ((c.zip e).filter (0 < ·.1)).map (·.2)

theorem mem_occupied {c e : List ℕ} {m : ℕ} :
    m ∈ occupied c e ↔ ∃ (k : ℕ) (h1 : k < c.length) (h2 : k < e.length), 0 < c[k] ∧ e[k] = m := by
  -- a member of the filtered zip sits at an index of the zip (`exists_mem_iff_getElem`), which is an index of both lists (`And.exists`)
  simp only [occupied, List.mem_map, List.mem_filter, decide_eq_true_eq, and_assoc, List.exists_mem_iff_getElem, List.getElem_zip,
    List.length_zip, lt_min_iff, And.exists]

/-- the same in the entry form of `rowOk_iff` and `shellSum_eq_add_sum`, for rows of equal length -/
theorem mem_occupied_getD {c e : List ℕ} {m : ℕ} (hl : c.length = e.length) :
    m ∈ occupied c e ↔ ∃ k < c.length, 0 < c.getD k 0 ∧ e.getD k 0 = m := by
  simp only [mem_occupied, List.getElem_eq_getD 0, exists_prop, ← hl, and_self_left]

theorem occupied_cons (n en : ℕ) (ns es : List ℕ) :
    occupied (n :: ns) (en :: es) = if 0 < n then en :: occupied ns es else occupied ns es := by
  simp only [occupied, List.zip_cons_cons, List.filter_cons, decide_eq_true_eq]
  split_ifs <;> rfl

/-- so that `List.min?_eq_some_iff` says what `minBindN` returns -/
theorem minBindN_eq_min? : ∀ c e : List ℕ, minBindN c e = (occupied c e).min?
  | [], _ => by simp [minBindN, occupied]
  | _ :: _, [] => by simp [minBindN, occupied]
  | n :: ns, en :: es => by
    rw [minBindN, occupied_cons, minBindN_eq_min? ns es]
    split_ifs
    · rw [List.min?_cons]
      cases (occupied ns es).min? <;> rfl
    · rfl

/-- `np.max(shell_n[np.nonzero(conf)])` of `precompute_rr_quantities`, except that numpy raises on a row without electrons, where `rrN0`
is 0; the tables have no such row (`C08.rrShell_facts`: `1 ≤ n0`) -/
theorem rrN0_eq_max? : ∀ c ns : List ℕ, rrN0 c ns = (occupied c ns).max?.getD 0
  | [], _ => by simp [rrN0, occupied]
  | _ :: _, [] => by simp [rrN0, occupied]
  | x :: xs, n :: nr => by
    rw [rrN0, occupied_cons, rrN0_eq_max? xs nr]
    split_ifs
    · rw [List.max?_cons]
      cases (occupied xs nr).max? <;> simp
    · rfl

theorem shellSum_eq_add_sum (E : ℝ) (co : ℕ → Option (ℝ × ℝ × ℝ)) : ∀ (ns es : List ℕ) (sh : ℕ) (acc : ℝ),
    ns.length = es.length → shellSum E co ns es sh acc = acc + ∑ k ∈ Finset.range ns.length,
      if 0 < ns.getD k 0 ∧ (ofScaled (es.getD k 0) scEbind : ℝ) < E then
        lotzTerm E (ns.getD k 0) (ofScaled (es.getD k 0) scEbind) (co (sh + k)) else 0
  | [], [], _, _, _ => by simp [shellSum]
  | n :: ns, en :: es, sh, acc, hl => by
    rw [shellSum, shellSum_eq_add_sum E co ns es (sh + 1) _ (by simpa using hl), List.length_cons, Finset.sum_range_succ']
    simp only [List.getD_cons_zero, List.getD_cons_succ, Nat.add_zero, Nat.add_right_comm sh 1, Nat.add_assoc sh]
    split_ifs <;> ring

variable {E : ℝ} {co : ℕ → Option (ℝ × ℝ × ℝ)} {c e : List ℕ} {sh : ℕ}

theorem RowOk.summand_pos (hok : RowOk co c e sh) (hl : c.length = e.length) (k : ℕ) (hn : 0 < c.getD k 0)
    (hE : (ofScaled (e.getD k 0) scEbind : ℝ) < E) :
    0 < lotzTerm E (c.getD k 0) (ofScaled (e.getD k 0) scEbind) (co (sh + k)) := by
  obtain ⟨he, hco⟩ := (rowOk_iff co c e sh hl).mp hok k hn
  exact lotzTerm_pos E _ _ _ hco hn (ofScaled_pos _ _ he) hE

theorem shellSum_ge (acc : ℝ) (hok : RowOk co c e sh) (hl : c.length = e.length) : acc ≤ shellSum E co c e sh acc := by
  rw [shellSum_eq_add_sum E co c e sh acc hl]
  refine le_add_of_nonneg_right (Finset.sum_nonneg fun k _ => ?_)
  split_ifs with h
  · exact (hok.summand_pos hl k h.1 h.2).le
  · rfl

theorem shellSum_eq_of_closed (acc : ℝ) (hl : c.length = e.length) (h : ∀ m ∈ occupied c e, E ≤ ofScaled m scEbind) :
    shellSum E co c e sh acc = acc := by
  rw [shellSum_eq_add_sum E co c e sh acc hl, Finset.sum_eq_zero, add_zero]
  intro k hk
  exact if_neg fun hc => (h _ ((mem_occupied_getD hl).mpr ⟨k, Finset.mem_range.mp hk, hc.1, rfl⟩)).not_gt hc.2

theorem shellSum_gt_of_open (acc : ℝ) (hok : RowOk co c e sh) (hl : c.length = e.length) {m : ℕ} (hm : m ∈ occupied c e)
    (hE : (ofScaled m scEbind : ℝ) < E) : acc < shellSum E co c e sh acc := by
  obtain ⟨k, h1, hn, rfl⟩ := (mem_occupied_getD hl).mp hm
  rw [shellSum_eq_add_sum E co c e sh acc hl]
  refine lt_add_of_pos_right _ (Finset.sum_pos' (fun j _ => ?_) ⟨k, Finset.mem_range.mpr h1, ?_⟩)
  · split_ifs with h
    · exact (hok.summand_pos hl j h.1 h.2).le
    · rfl
  · rw [if_pos ⟨hn, hE⟩]
    exact hok.summand_pos hl k hn hE

end Xs
