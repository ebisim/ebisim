import EbisimProofs.Lemmas.Consts
import EbisimModel.Gen.Kernels

/-! The generated `electron_velocity` over ℝ: its closed form, its sign, and the inequalities on `1 − (M/(M+E))²` from which C15 also
gets the bound `v_e < c` and strict monotonicity. -/
namespace Gen
open Num

theorem one_sub_sq_ratio_pos {M E : ℝ} (hM : 0 < M) (hE : 0 < E) : 0 < 1 - (M / (M + E)) ^ 2 :=
  sub_pos.mpr (pow_lt_one₀ (by positivity) ((div_lt_one (by positivity)).mpr (lt_add_of_pos_right M hE)) two_ne_zero)

theorem one_sub_sq_ratio_lt_one {M E : ℝ} (hM : 0 < M) (hE : 0 ≤ E) : 1 - (M / (M + E)) ^ 2 < 1 :=
  sub_lt_self 1 (by positivity)

theorem one_sub_sq_ratio_lt {M a b : ℝ} (hM : 0 < M) (ha : 0 ≤ a) (hab : a < b) :
    1 - (M / (M + a)) ^ 2 < 1 - (M / (M + b)) ^ 2 := by
  have hb : 0 ≤ b := ha.trans hab.le
  exact sub_lt_sub_left (pow_lt_pow_left₀ (div_lt_div_of_pos_left hM (by positivity) (add_lt_add_right hab M)) (by positivity) two_ne_zero) 1

theorem electron_velocity_eq (E : ℝ) :
    electron_velocity E = Const.C_L * Real.sqrt (1 - (Const.M_E_EV / (Const.M_E_EV + E)) ^ 2) := by
  simp only [electron_velocity, lit_real, powN_real, Transc.sqrt_real, Nat.cast_one]

theorem electron_velocity_pos {E : ℝ} (hE : 0 < E) : 0 < electron_velocity E := by
  rw [electron_velocity_eq]
  exact mul_pos Const.C_L_pos (Real.sqrt_pos.mpr (one_sub_sq_ratio_pos Const.M_E_EV_pos hE))

end Gen
