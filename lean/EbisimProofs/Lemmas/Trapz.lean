import EbisimProofs.RealInst
import EbisimModel.Model.Radial

/-! The trapezoid rule `Radial.trapz` over ℝ as a functional of the integrand: its recursion equation, homogeneity,
non-negativity on a non-decreasing grid, and the Cauchy–Schwarz inequality behind `heat_capacity ≥ 3/2`. -/
namespace Radial
open Num

theorem trapzGo_acc : ∀ (x y : List ℝ) (acc : ℝ), trapzGo acc x y = acc + trapzGo 0 x y
  | x0 :: x1 :: xs, y0 :: y1 :: ys, acc => by
    rw [trapzGo, trapzGo, trapzGo_acc (x1 :: xs) (y1 :: ys), trapzGo_acc (x1 :: xs) (y1 :: ys) (0 + _)]
    -- `2.0` elaborates through `Num.sci` here, and `ring` on such a literal produces a term the kernel rejects: hide it first
    generalize (x1 - x0) * (y1 + y0) / (2.0 : ℝ) = s
    ring
  | [], _, _ | [_], _, _ | _ :: _ :: _, [], _ | _ :: _ :: _, [_], _ => by simp [trapzGo]

theorem trapz_cons_cons (x0 x1 y0 y1 : ℝ) (xs ys : List ℝ) :
    trapz (y0 :: y1 :: ys) (x0 :: x1 :: xs) = (x1 - x0) * (y1 + y0) / 2 + trapz (y1 :: ys) (x1 :: xs) := by
  rw [trapz, trapzGo, trapzGo_acc, lit_real, Nat.cast_zero, zero_add, trapz, lit_real, Nat.cast_zero]
  norm_num

theorem trapz_eq_zero : ∀ (x y : List ℝ), (∀ v ∈ y, v = 0) → trapz y x = 0
  | x0 :: x1 :: xs, y0 :: y1 :: ys, h => by
    rw [trapz_cons_cons, trapz_eq_zero (x1 :: xs) (y1 :: ys) fun v hv => h v (by simp [hv]), h y0 (by simp), h y1 (by simp)]
    norm_num
  | [], _, _ | [_], _, _ | _ :: _ :: _, [], _ | _ :: _ :: _, [_], _ => by simp [trapz, trapzGo]

theorem trapz_nonneg : ∀ (x y : List ℝ), x.Pairwise (· ≤ ·) → (∀ v ∈ y, 0 ≤ v) → 0 ≤ trapz y x
  | x0 :: x1 :: xs, y0 :: y1 :: ys, hx, hy => by
    have h01 : x0 ≤ x1 := (List.pairwise_cons.mp hx).1 x1 (by simp)
    have ih := trapz_nonneg (x1 :: xs) (y1 :: ys) (List.pairwise_cons.mp hx).2 fun v hv => hy v (by simp [hv])
    rw [trapz_cons_cons]
    have := mul_nonneg (sub_nonneg.mpr h01) (add_nonneg (hy y1 (by simp)) (hy y0 (by simp)))
    linarith
  | [], _, _, _ | [_], _, _, _ | _ :: _ :: _, [], _, _ | _ :: _ :: _, [_], _, _ => by simp [trapz, trapzGo]

theorem trapz_map_mul (c : ℝ) : ∀ (x y : List ℝ), trapz (y.map (c * ·)) x = c * trapz y x
  | x0 :: x1 :: xs, y0 :: y1 :: ys => by
    have ih := trapz_map_mul c (x1 :: xs) (y1 :: ys)
    simp only [List.map_cons] at ih ⊢
    rw [trapz_cons_cons, trapz_cons_cons, ih]
    ring
  | [], _ | [_], _ | _ :: _ :: _, [] | _ :: _ :: _, [_] => by simp [trapz, trapzGo]

theorem trapz_smul (c : ℝ) (r sh : List ℝ) :
    trapz (List.zipWith (· * ·) r (sh.map (c * ·))) r = c * trapz (List.zipWith (· * ·) r sh) r := by
  have : List.zipWith (· * ·) r (sh.map (c * ·)) = (List.zipWith (· * ·) r sh).map (c * ·) := by
    rw [List.zipWith_map_right, List.map_zipWith]
    congr
    funext a b
    ring
  rw [this, trapz_map_mul]

theorem trapz_quadratic (t : ℝ) : ∀ (x m p : List ℝ), m.length = p.length →
    trapz (List.zipWith (fun m p => m * (p - t) ^ 2) m p) x =
      trapz (List.zipWith (fun m p => m * p ^ 2) m p) x - 2 * t * trapz (List.zipWith (fun m p => m * p) m p) x + t ^ 2 * trapz m x
  | x0 :: x1 :: xs, m0 :: m1 :: ms, p0 :: p1 :: ps, h => by
    have ih := trapz_quadratic t (x1 :: xs) (m1 :: ms) (p1 :: ps) (by simpa using h)
    simp only [List.zipWith_cons_cons] at ih ⊢
    rw [trapz_cons_cons, trapz_cons_cons, trapz_cons_cons, trapz_cons_cons, ih]
    ring
  | [], _, _, _ | [_], _, _, _ => by simp [trapz, trapzGo]
  | _ :: _ :: _, [], [], _ => by simp [trapz, trapzGo]
  | _ :: _ :: _, [_], [_], _ => by simp [trapz, trapzGo]

theorem trapz_cauchy_schwarz (x m p : List ℝ) (h : m.length = p.length) (hx : x.Pairwise (· ≤ ·)) (hm : ∀ b ∈ m, 0 ≤ b) :
    trapz (List.zipWith (fun m p => m * p) m p) x ^ 2 ≤ trapz (List.zipWith (fun m p => m * p ^ 2) m p) x * trapz m x := by
  -- `∫ m (p − t)²` is a quadratic in `t` that is never negative, so its discriminant is not positive
  have hq : ∀ t : ℝ, 0 ≤ trapz m x * (t * t) + -2 * trapz (List.zipWith (fun m p => m * p) m p) x * t
      + trapz (List.zipWith (fun m p => m * p ^ 2) m p) x := by
    intro t
    have := trapz_nonneg x (List.zipWith (fun m p => m * (p - t) ^ 2) m p) hx fun b hb => by
      obtain ⟨i, hi, rfl⟩ := List.mem_iff_getElem.mp hb
      rw [List.getElem_zipWith]
      exact mul_nonneg (hm _ (List.getElem_mem _)) (sq_nonneg _)
    rw [trapz_quadratic t x m p h] at this
    linarith
  have := discrim_le_zero hq
  rw [discrim] at this
  linarith

/-- the variance form of Cauchy–Schwarz, as `heat_capacity` writes it -/
theorem variance_nonneg {A B C : ℝ} (hC : 0 < C) (h : B ^ 2 ≤ A * C) : 0 ≤ A / C - B ^ 2 / C ^ 2 := by
  rw [sub_nonneg, div_le_div_iff₀ (by positivity) hC]
  calc B ^ 2 * C ≤ A * C * C := mul_le_mul_of_nonneg_right h hC.le
    _ = A * C ^ 2 := by ring

end Radial
