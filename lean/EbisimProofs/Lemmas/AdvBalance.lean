import EbisimProofs.RealInst
import EbisimModel.Model.Adv

/-! What `Adv.at'` reads from the array forms `_adv_rhs` builds (at every index, in range or not), and the
telescoping of its shift structure (`dn -= R; dn[1:] += R[:-1]`, `dn[:-1] += R[1:]`) over one block of charge
states, for particles and for thermal energy. -/
namespace Adv
open Num Finset

theorem at'_eq_getElem (v : Array ℝ) (k : ℕ) (h : k < v.size) : at' v k = v[k] := by
  simp [at', Array.getD, h]

theorem at'_of_le (v : Array ℝ) (k : ℕ) (h : v.size ≤ k) : at' v k = 0 := by
  simp [at', Array.getD, Nat.not_lt.mpr h]

@[simp] theorem at'_ofFn {n : ℕ} (f : Fin n → ℝ) (k : ℕ) :
    at' (Array.ofFn f) k = if h : k < n then f ⟨k, h⟩ else 0 := by
  simp [at', Array.getD]

-- about any `a`: with `lit 0` on the left `simp` would never use it, `lit_real` rewrites the `lit 0` first
@[simp] theorem at'_replicate (n : ℕ) (a : ℝ) (k : ℕ) : at' (Array.replicate n a) k = if k < n then a else 0 := by
  simp [at', Array.getD]

theorem at'_setIfInBounds (v : Array ℝ) (a k : ℕ) :
    at' (v.setIfInBounds a (lit 0)) k = if k = a then 0 else at' v k := by
  simp only [at', Array.getD_eq_getD_getElem?, Array.getElem?_setIfInBounds, lit_real, Nat.cast_zero, eq_comm (a := k)]
  -- at `k = a` the entry is `some 0` or, if `a` is out of bounds, missing: both read 0
  split_ifs <;> rfl

theorem at'_zeroAt (v : Array ℝ) (lb : List ℕ) (k : ℕ) : at' (zeroAt v lb) k = if k ∈ lb then 0 else at' v k := by
  induction lb generalizing v with
  | nil => simp [zeroAt]
  | cons a as ih =>
    rw [zeroAt, List.foldl_cons, ← zeroAt, ih, at'_setIfInBounds]
    simp only [List.mem_cons, ite_or]
    split_ifs <;> rfl

theorem at'_ofFn_nonneg {n : ℕ} {f : Fin n → ℝ} (hf : ∀ i, 0 ≤ f i) (k : ℕ) : 0 ≤ at' (Array.ofFn f) k := by
  rw [at'_ofFn]
  exact dite_nonneg (fun _ => hf _) fun _ => le_rfl

/-! A per-state array behind an option switch: `R_ei`, `R_rr`, `R_dr`, `R_cx`, `sh`, `ct` of `stage` have this
shape, `R_ax` and `R_ra` the one of `at'_escape`, `fei` and `iheat` the one of `at'_rows`. The lemmas are
about variables; a field of `stage m y` is matched against them by unfolding `stage` once (`exact at'_gated k`),
never by rewriting: switch, length and entry function are implicit and read off the unfolded field, which has to have
the shape of the left side literally (else-branch `Array.replicate n (lit 0)` included), and the right side of the caller's statement has to be
the entry function written in `stage`, factor by factor; otherwise `exact` fails with a mismatch that shows the unfolded `stage` and nothing else. -/

theorem at'_gated {b : Bool} {n : ℕ} {f : Fin n → ℝ} (k : ℕ) :
    at' (if b = true then Array.ofFn f else Array.replicate n (lit 0)) k
      = if h : b = true ∧ k < n then f ⟨k, h.2⟩ else 0 := by
  cases b <;> simp

theorem at'_off {b : Bool} (h : b = false) {v : Array ℝ} {n : ℕ} (k : ℕ) :
    at' (if b = true then v else Array.replicate n (lit 0)) k = 0 := by
  subst h
  simp

theorem at'_escape {b : Bool} {n : ℕ} {lb : List ℕ} {f : Fin n → ℝ} (k : ℕ) :
    at' (if b = true then zeroAt (Array.ofFn fun i => max' (f i) (0.0 : ℝ)) lb else Array.replicate n (lit 0)) k
      = if h : b = true ∧ k ∉ lb ∧ k < n then max (f ⟨k, h.2.2⟩) 0 else 0 := by
  cases b
  · simp
  · simp only [if_true, true_and, at'_zeroAt, at'_ofFn, max'_real, zero_float_real]
    by_cases h1 : k ∈ lb
    · rw [if_pos h1, dif_neg fun c => c.1 h1]
    · rw [if_neg h1]
      by_cases h2 : k < n
      · rw [dif_pos h2, dif_pos ⟨h1, h2⟩]
      · rw [dif_neg h2, dif_neg fun c => h2 c.2]

/-- The radial integrals of `stage` are computed for all states at once: rows `s i` (the Boltzmann shapes), each
weighted by `w`, then two functionals `F`, `G` of every weighted row, combined per state by `c`. Unification finds
`s`, `w`, `F`, `G` in the unfolded `stage`; `c` has to be given (`?c (at' _ i) (at' _ i)` is no pattern). -/
theorem at'_rows {β γ : Type} {n : ℕ} {s : Fin n → β} {w : β → γ} {F G : γ → ℝ} (c : ℝ → ℝ → ℝ) {k : ℕ} (hk : k < n) :
    at' (Array.ofFn (n := n) fun i => c (at' (((Array.ofFn s).map w).map F) i.val) (at' (((Array.ofFn s).map w).map G) i.val)) k
      = c (F (w (s ⟨k, hk⟩))) (G (w (s ⟨k, hk⟩))) := by
  simp [hk]

/-! Both shifts are "next value minus this value" of a function on ℕ, so every block sum below is
`Finset.sum_Ico_sub`. -/

theorem shiftUp_succ (R : ℕ → ℝ) (k : ℕ) : shiftUp R (k + 1) = R k := by simp [shiftUp]
theorem shiftDown_lt {nq : ℕ} {R : ℕ → ℝ} {k : ℕ} (h : k + 1 < nq) : shiftDown nq R k = R (k + 1) := by simp [shiftDown, h]
theorem shiftDown_last (nq : ℕ) (R : ℕ → ℝ) (k : ℕ) (h : ¬ k + 1 < nq) : shiftDown nq R k = 0 := by simp [shiftDown, h]

theorem block_sum_up (R : ℕ → ℝ) (lb ub : ℕ) (h : lb + 1 ≤ ub) :
    ∑ k ∈ Ico (lb + 1) ub, (-R k + shiftUp R k) = R lb - R (ub - 1) := by
  have tel := sum_Ico_sub (fun k => R (k - 1)) h
  simp only [Nat.add_sub_cancel] at tel
  rw [← neg_sub, ← tel, ← sum_neg_distrib]
  refine sum_congr rfl fun k hk => ?_
  rw [shiftUp, if_neg (by have := (mem_Ico.mp hk).1; omega)]
  ring

theorem block_sum_down (nq : ℕ) (R : ℕ → ℝ) (lb ub : ℕ) (h : lb + 2 ≤ ub) (hub : ub ≤ nq) :
    ∑ k ∈ Ico (lb + 1) ub, (-R k + shiftDown nq R k) = (if ub < nq then R ub else 0) - R (lb + 1) := by
  -- telescopes for the rate restricted to the vector, which is what `shiftDown` reads
  have tel : ∑ k ∈ Ico (lb + 1) ub, ((if k + 1 < nq then R (k + 1) else 0) - if k < nq then R k else 0)
      = (if ub < nq then R ub else 0) - if lb + 1 < nq then R (lb + 1) else 0 :=
    sum_Ico_sub (fun k => if k < nq then R k else 0) (by omega)
  rw [if_pos (show lb + 1 < nq by omega)] at tel
  rw [← tel]
  refine sum_congr rfl fun k hk => ?_
  rw [shiftDown, lit_real, Nat.cast_zero, if_pos (show k < nq by have := (mem_Ico.mp hk).2; omega)]
  ring

/-- in scalars: `a` leaves a state at temperature `t` (raw density `n`), `b` arrives from a neighbour at
temperature `t'` bringing `h'` per particle (`h' < 0` for recombination) -/
theorem energy_step (t t' h' n a b : ℝ) (hn : n ≠ 0) :
    t * (-a + b) + n * (b / n * (t' - t) + b / n * h') = (t' + h') * b - t * a := by
  field_simp
  ring

theorem ei_energy_step (R T h n : ℕ → ℝ) (k : ℕ) (hk : k ≠ 0) (hn : n k ≠ 0) :
    T k * (-R k + R (k - 1)) + n k * (R (k - 1) / n k * (T (k - 1) - T k) + R (k - 1) / n k * h (k - 1))
      = (T (k - 1) + h (k - 1)) * R (k - 1) - T k * R k :=
  energy_step _ _ _ _ _ _ hn

theorem rec_energy_step (R T h n : ℕ → ℝ) (k : ℕ) (hn : n k ≠ 0) :
    T k * (-R k + R (k + 1)) + n k * (R (k + 1) / n k * (T (k + 1) - T k) - R (k + 1) / n k * h (k + 1))
      = (T (k + 1) - h (k + 1)) * R (k + 1) - T k * R k := by
  linear_combination energy_step (T k) (T (k + 1)) (-h (k + 1)) (n k) (R k) (R (k + 1)) hn

theorem ei_energy_block (R T h : ℕ → ℝ) (lb ub : ℕ) (hlu : lb + 1 ≤ ub) :
    ∑ k ∈ Ico (lb + 1) ub, ((T (k - 1) + h (k - 1)) * R (k - 1) - T k * R k)
      = T lb * R lb - T (ub - 1) * R (ub - 1) + ∑ k ∈ Ico (lb + 1) ub, h (k - 1) * R (k - 1) := by
  have tel := sum_Ico_sub (fun k => T (k - 1) * R (k - 1)) hlu
  simp only [Nat.add_sub_cancel] at tel
  rw [← neg_sub (T (ub - 1) * R (ub - 1)), ← tel, ← sum_neg_distrib, ← sum_add_distrib]
  exact sum_congr rfl fun k _ => by ring

theorem rec_energy_block (R T h : ℕ → ℝ) (lb ub : ℕ) (hlu : lb + 1 ≤ ub) :
    ∑ k ∈ Ico (lb + 1) ub, ((T (k + 1) - h (k + 1)) * R (k + 1) - T k * R k)
      = T ub * R ub - T (lb + 1) * R (lb + 1) - ∑ k ∈ Ico (lb + 1) ub, h (k + 1) * R (k + 1) := by
  rw [← sum_Ico_sub (fun k => T k * R k) hlu, ← sum_sub_distrib]
  exact sum_congr rfl fun k _ => by ring

end Adv
