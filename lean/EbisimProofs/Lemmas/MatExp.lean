import Mathlib.Analysis.Normed.Algebra.MatrixExponential
import Mathlib.Analysis.SpecialFunctions.Exponential
import Mathlib.Analysis.Calculus.Deriv.Comp

/-! Facts about `exp (t • J)` for rate matrices: it solves the linear ODE, is a semigroup,
conserves every left null vector of `J` (column sums: particle number) and preserves non-negativity
(Metzler matrices). -/
open Matrix NormedSpace
open scoped Nat

namespace RateMat
variable {n : Type} [Fintype n] [DecidableEq n]
attribute [local instance] Matrix.linftyOpNormedRing Matrix.linftyOpNormedAlgebra

theorem exp_nonneg_entry (A : Matrix n n ℝ) (hA : ∀ i j, 0 ≤ A i j) :
    ∀ i j, 0 ≤ (exp A) i j := by
  intro i j
  have h := exp_series_hasSum_exp' (𝕂 := ℝ) A
  have h2 : HasSum (fun k : ℕ => ((k !⁻¹ : ℝ) • A ^ k) i j) ((exp A) i j) :=
    (Pi.hasSum.mp ((Pi.hasSum.mp h) i)) j
  refine h2.nonneg fun k => ?_
  simp only [Matrix.smul_apply, smul_eq_mul]
  exact mul_nonneg (by positivity) (Matrix.pow_apply_nonneg hA k i j)

/-- Metzler matrices (non-negative off-diagonal) have entrywise non-negative exponentials. -/
theorem exp_nonneg_of_metzler (A : Matrix n n ℝ) (hA : ∀ i j, i ≠ j → 0 ≤ A i j) :
    ∀ i j, 0 ≤ (exp A) i j := by
  -- shift the diagonal by a scalar matrix: `A = -c • 1 + B` with `B ≥ 0` entrywise, so `exp A = e^{-c} • exp B`
  obtain ⟨c, hc⟩ := Finite.exists_le fun i => -A i i
  set B := A + c • (1 : Matrix n n ℝ) with hB
  have hBnn : ∀ i j, 0 ≤ B i j := fun i j => by
    rcases eq_or_ne i j with rfl | hij
    · simpa [hB] using neg_le_iff_add_nonneg'.mp (hc i)
    · simpa [hB, Matrix.one_apply_ne hij] using hA i j hij
  have hsplit : A = diagonal (fun _ => -c) + B := by simp [hB, ← smul_one_eq_diagonal]
  have hcomm : Commute (diagonal fun _ => -c) B := by
    rw [← smul_one_eq_diagonal]
    exact (Commute.one_left B).smul_left _
  intro i j
  rw [hsplit, Matrix.exp_add_of_commute _ _ hcomm, Matrix.exp_diagonal, diagonal_mul, Pi.coe_exp, ← Real.exp_eq_exp_ℝ]
  exact mul_nonneg (Real.exp_pos _).le (exp_nonneg_entry B hBnn i j)

theorem vecMul_exp (u : n → ℝ) (A : Matrix n n ℝ) (h : u ᵥ* A = 0) : u ᵥ* exp A = u := by
  -- the series of `exp A`, mapped through `M ↦ u ᵥ* M`, has the single non-zero term `u`
  have hs := (exp_series_hasSum_exp' (𝕂 := ℝ) A).map
    ({ toFun := fun M => u ᵥ* M, map_zero' := vecMul_zero u, map_add' := fun A B => vecMul_add A B u } :
      Matrix n n ℝ →+ (n → ℝ))
    (continuous_const.matrix_vecMul continuous_id)
  refine hs.unique ?_
  convert hasSum_ite_eq (0 : ℕ) u using 2 with k
  cases k with
  | zero => simp
  | succ k => simp [pow_succ', ← vecMul_vecMul, h, vecMul_smul]

omit [DecidableEq n] in
theorem one_vecMul_eq_zero {A : Matrix n n ℝ} (hA : ∀ j, ∑ i, A i j = 0) : 1 ᵥ* A = 0 :=
  funext fun j => (one_dotProduct _).trans (hA j)

/-- if every column of `A` sums to zero, every column of `exp A` sums to one -/
theorem colsum_exp (A : Matrix n n ℝ) (hA : ∀ j, ∑ i, A i j = 0) :
    ∀ j, ∑ i, (exp A) i j = 1 := fun j =>
  (one_dotProduct _).symm.trans (congrFun (vecMul_exp 1 A (one_vecMul_eq_zero hA)) j)

theorem conserved (u : n → ℝ) (J : Matrix n n ℝ) (h : u ᵥ* J = 0) (t : ℝ) (N0 : n → ℝ) :
    u ⬝ᵥ (exp (t • J) *ᵥ N0) = u ⬝ᵥ N0 := by
  rw [dotProduct_mulVec, vecMul_exp u _ (by rw [vecMul_smul, h, smul_zero])]

theorem hasDerivAt_solution (J : Matrix n n ℝ) (N0 : n → ℝ) (t : ℝ) (i : n) :
    HasDerivAt (fun u : ℝ => (exp (u • J) *ᵥ N0) i) ((J *ᵥ (exp (t • J) *ᵥ N0)) i) t := by
  -- `M ↦ (M *ᵥ N0) i` is linear, hence (finite dimension) continuous linear and its own derivative
  let L : Matrix n n ℝ →ₗ[ℝ] ℝ := LinearMap.proj i ∘ₗ (Matrix.mulVecBilin ℝ ℝ).flip N0
  have h := (LinearMap.toContinuousLinearMap L).hasFDerivAt.comp_hasDerivAt t (hasDerivAt_exp_smul_const' (𝕂 := ℝ) J t)
  rw [Matrix.mulVec_mulVec]
  exact h

theorem exp_add_smul (J : Matrix n n ℝ) (s t : ℝ) :
    exp ((s + t) • J) = exp (t • J) * exp (s • J) := by
  rw [add_comm, add_smul]
  exact Matrix.exp_add_of_commute _ _ ((Commute.refl J).smul_left t |>.smul_right s)

end RateMat
