import EbisimProofs.Lemmas.Fd

/-! The Newton update `Radial.newton` of the Boltzmann–Poisson iterations: the updated potential solves the discretised
Poisson equation linearised at the previous iterate, exactly (`newton_identity`). The operator is written `mulL xp c x`, the
tridiagonal product with a bare coefficient list (`mulTri` wants rows with a right-hand side it never reads; `mulTri_withRhs`
passes between the two); `mulL_getElem` gives every entry, so identities between such products are proved entry by entry.
Last, a wall row `(0, 1, ·)`: if `b`, `jd` end in 0, the residual ends in the last entry of `x` and `newtonRows` keeps the row. -/
namespace Radial
open Num

/-- tridiagonal product with a coefficient list `(l, d, u)` (no right-hand side involved) -/
def mulL : ℝ → List (ℝ × ℝ × ℝ) → List ℝ → List ℝ
  | _, [], _ => []
  | _, _ :: _, [] => []
  | xp, (l, d, u) :: cs, x :: xs =>
    (l * xp + d * x + (match xs with | [] => 0 | y :: _ => u * y)) :: mulL x cs xs

/-- `(l, d - j_d, u)`, the matrix the iterations hand to `tridiagonal_matrix_algorithm` -/
def shiftL (c : List (ℝ × ℝ × ℝ)) (jd : List ℝ) : List (ℝ × ℝ × ℝ) :=
  List.zipWith (fun c j => (c.1, c.2.1 - j, c.2.2)) c jd

/-- over ℝ the two branches of `mulL` are one, as for `mulTri` -/
theorem mulL_cons (xp x : ℝ) (t : ℝ × ℝ × ℝ) (cs : List (ℝ × ℝ × ℝ)) (xs : List ℝ) :
    mulL xp (t :: cs) (x :: xs) = (t.1 * xp + t.2.1 * x + t.2.2 * xs.headD 0) :: mulL x cs xs := by
  cases xs <;> simp [mulL]

@[simp] theorem mulL_length : ∀ (xp : ℝ) (c : List (ℝ × ℝ × ℝ)) (x : List ℝ), (mulL xp c x).length = min c.length x.length
  | _, [], _ => by simp only [mulL, List.length_nil, Nat.zero_min]
  | _, _ :: _, [] => by simp only [mulL, List.length_nil, Nat.min_zero]
  | _, _ :: cs, x0 :: xs => by
    rw [mulL_cons, List.length_cons, mulL_length x0 cs xs, List.length_cons, List.length_cons, Nat.add_min_add_right]

/-- every row of `A x`, the first and the last included: the left neighbour of the first row is `xp`, the missing right
neighbour of the last row reads as 0 -/
theorem mulL_getElem : ∀ (xp : ℝ) (c : List (ℝ × ℝ × ℝ)) (x : List ℝ) (i : ℕ) (h : i < (mulL xp c x).length),
    (mulL xp c x)[i] = (c[i]'(by rw [mulL_length] at h; omega)).1 * (xp :: x)[i]'(by rw [mulL_length] at h; rw [List.length_cons]; omega) +
      (c[i]'(by rw [mulL_length] at h; omega)).2.1 * x[i]'(by rw [mulL_length] at h; omega) +
      (c[i]'(by rw [mulL_length] at h; omega)).2.2 * x.getD (i + 1) 0
  | _, _ :: _, _ :: xs, 0, _ => by
    simp only [mulL_cons, List.getElem_cons_zero, List.headD_eq_head?_getD, List.head?_eq_getElem?, List.getD_eq_getElem?_getD,
      List.getElem?_cons_succ]
  | _, _ :: cs, x0 :: xs, i + 1, h => by
    simp only [mulL_cons, List.getElem_cons_succ, List.getD_eq_getElem?_getD, List.getElem?_cons_succ]
    rw [mulL_getElem x0 cs xs i, List.getD_eq_getElem?_getD]

theorem mulTri_withRhs : ∀ (xp : ℝ) (c : List (ℝ × ℝ × ℝ)) (b x : List ℝ), c.length = b.length →
    mulTri xp (withRhs c b) x = mulL xp c x
  | _, [], [], _, _ => by simp [withRhs, mulTri, mulL]
  | _, _ :: _, _ :: _, [], _ => by simp [withRhs, mulTri, mulL]
  | xp, (l, d, u) :: cs, b0 :: bs, x0 :: xs, h => by
    rw [withRhs, mulTri_cons, mulL_cons, mulTri_withRhs x0 cs bs xs (by simpa using h)]

theorem mulTri_withRhs_getElem (c : List (ℝ × ℝ × ℝ)) (b x : List ℝ) (hc : c.length = x.length) (hb : c.length = b.length)
    (i : ℕ) (hi : 1 ≤ i) (h : i + 1 < x.length) :
    ∃ h' : i < (mulTri 0 (withRhs c b) x).length,
      (mulTri 0 (withRhs c b) x)[i] =
        (c[i]'(by omega)).1 * x[i - 1] + (c[i]'(by omega)).2.1 * x[i] + (c[i]'(by omega)).2.2 * x[i + 1] := by
  rw [mulTri_withRhs 0 c b x hb]
  obtain ⟨j, rfl⟩ : ∃ j, i = j + 1 := ⟨i - 1, by omega⟩
  exact ⟨by simp; omega, by simp [mulL_getElem, h]⟩

@[simp] theorem shiftL_length (c : List (ℝ × ℝ × ℝ)) (j : List ℝ) : (shiftL c j).length = min c.length j.length := by
  rw [shiftL, List.length_zipWith]

theorem newtonRows_eq : ∀ (c : List (ℝ × ℝ × ℝ)) (j f : List ℝ), newtonRows c j f = withRhs (shiftL c j) f
  | [], _, _ => by simp [newtonRows, shiftL, withRhs]
  | _ :: _, [], _ => by simp [newtonRows, shiftL, withRhs]
  | (l, d, u) :: _, _ :: _, [] => by simp [newtonRows, shiftL, withRhs]
  | (l, d, u) :: c, j0 :: j, f0 :: f => by simp [newtonRows, shiftL, withRhs, newtonRows_eq c j f]

@[simp] theorem newtonRows_length (c : List (ℝ × ℝ × ℝ)) (jd f : List ℝ) :
    (newtonRows c jd f).length = min (min c.length jd.length) f.length := by
  rw [newtonRows_eq, withRhs_length, shiftL_length]

theorem mulL_shift (xp : ℝ) (c : List (ℝ × ℝ × ℝ)) (jd y : List ℝ) (h1 : c.length = jd.length) (h2 : c.length = y.length) :
    mulL xp (shiftL c jd) y = List.zipWith (· - ·) (mulL xp c y) (List.zipWith (· * ·) jd y) := by
  refine List.ext_getElem (by simp [← h1, ← h2]) fun i _ _ => ?_
  simp only [List.getElem_zipWith, mulL_getElem, shiftL]
  ring

theorem mulL_sub (xp yp : ℝ) (c : List (ℝ × ℝ × ℝ)) (x y : List ℝ) (h1 : c.length = x.length) (h2 : c.length = y.length) :
    mulL (xp - yp) c (List.zipWith (· - ·) x y) = List.zipWith (· - ·) (mulL xp c x) (mulL yp c y) := by
  refine List.ext_getElem (by simp [← h1, ← h2]) fun i _ _ => ?_
  simp only [List.getElem_zipWith, mulL_getElem, getD_zipWith _ (sub_zero 0) (h1.symm.trans h2)]
  -- the left neighbour `(xp - yp :: x − y)[i]` is `xp - yp` in the first row and an entry of `x − y` in the others
  cases i <;> simp <;> ring

/-- the code's residual `(d x − b) + u x⁺ + l x⁻` is `A x − b`; the lists may have any lengths, both sides stop with the shortest -/
theorem targetFun_eq : ∀ (c : List (ℝ × ℝ × ℝ)) (x b : List ℝ) (xp : Option ℝ),
    targetFun xp c x b = List.zipWith (· - ·) (mulL (xp.getD 0) c x) b
  | [], _, _, _ => by simp [targetFun, mulL]
  | _ :: _, [], _, _ => by simp [targetFun, mulL]
  | _ :: _, _ :: _, [], _ => by simp [targetFun]
  | (l, d, u) :: cs, x0 :: xs, b0 :: bs, xp => by
    simp only [targetFun, mulL, List.zipWith_cons_cons]
    rw [targetFun_eq cs xs bs (some x0)]
    simp only [Option.getD_some]
    congr 1
    cases xp <;> cases xs <;> simp <;> ring

@[simp] theorem targetFun_length (c : List (ℝ × ℝ × ℝ)) (x b : List ℝ) (xp : Option ℝ) :
    (targetFun xp c x b).length = min (min c.length x.length) b.length := by
  rw [targetFun_eq, List.length_zipWith, mulL_length]

theorem zipWith_sub_length (a b : List ℝ) (h : a.length = b.length) : (List.zipWith (· - ·) a b).length = a.length := by
  simp [h]

/-- `A y − j ⊙ y = A φ − b` rearranged to `A φ − A y = b − j ⊙ y`, entry by entry -/
theorem zipWith_sub_eq_of_sub_eq (Aphi Ay b jy : List ℝ) (h1 : Aphi.length = b.length) (h2 : Ay.length = b.length)
    (h3 : jy.length = b.length) (e : List.zipWith (· - ·) Ay jy = List.zipWith (· - ·) Aphi b) :
    List.zipWith (· - ·) Aphi Ay = List.zipWith (· - ·) b jy := by
  apply List.ext_getElem (by simp [h1, h2, h3])
  intro i hi _
  have := List.getElem_of_eq e (i := i) (by simp [h1, h2, h3] at hi ⊢; exact hi)
  simp only [List.getElem_zipWith] at this ⊢
  linarith

theorem newton_length (ldu : List (ℝ × ℝ × ℝ)) (phi b jd : List ℝ)
    (h1 : ldu.length = phi.length) (h2 : ldu.length = b.length) (h3 : ldu.length = jd.length) :
    (newton ldu phi b jd).1.length = phi.length ∧ (newton ldu phi b jd).2.length = phi.length := by
  simp [newton, ← h1, ← h2, ← h3]

/-- **Newton identity.** For `(φ', y) = newton ldu φ b j_d` (all lists of one length, no vanishing
pivot in the Thomas sweep): `A φ' = b − j_d ⊙ y`, i.e. `A φ' = b + j_d ⊙ (φ' − φ)` — the returned
potential solves the discretised Poisson equation for the charge density linearised at the
previous iterate, exactly. -/
theorem newton_identity (ldu : List (ℝ × ℝ × ℝ)) (phi b jd : List ℝ)
    (h1 : ldu.length = phi.length) (h2 : ldu.length = b.length) (h3 : ldu.length = jd.length)
    (hp : PivotsOk 0 (newtonRows ldu jd (targetFun none ldu phi b))) :
    mulL 0 ldu (newton ldu phi b jd).1 = List.zipWith (· - ·) b (List.zipWith (· * ·) jd (newton ldu phi b jd).2) := by
  have hyl := (newton_length ldu phi b jd h1 h2 h3).2
  simp only [newton] at hyl ⊢
  set f := targetFun none ldu phi b with hf
  have hfl : ldu.length = f.length := by simp [hf, ← h1, ← h2]
  set y := solve (newtonRows ldu jd f)
  have hy : ldu.length = y.length := by rw [hyl, h1]
  -- (A − diag j) y = f, that is A y − j ⊙ y = A φ − b
  have hs : (shiftL ldu jd).length = f.length := by simp [← h3, ← hfl]
  have hsol : mulTri 0 (newtonRows ldu jd f) y = (newtonRows ldu jd f).map (·.b) := solve_correct _ hp
  rw [newtonRows_eq, withRhs_map_b _ f hs, mulTri_withRhs 0 _ f y hs, mulL_shift 0 ldu jd y h3 hy, hf, targetFun_eq] at hsol
  -- A (φ − y) = A φ − A y
  have hsub := mulL_sub 0 0 ldu phi y h1 hy
  rw [sub_zero] at hsub
  rw [hsub]
  exact zipWith_sub_eq_of_sub_eq _ _ b _ (by simp [← h1, ← h2]) (by simp [← hy, ← h2]) (by simp [← h3, ← hy, ← h2]) hsol

theorem mulL_getLast? : ∀ (xp : ℝ) {c : List (ℝ × ℝ × ℝ)} {x : List ℝ} {u xl : ℝ}, c.length = x.length →
    c.getLast? = some (0, 1, u) → x.getLast? = some xl → (mulL xp c x).getLast? = some xl
  | xp, [c0], [x0], u, xl, _, hc, hx => by
    simp only [List.getLast?_singleton, Option.some.injEq] at hc hx
    subst hc hx
    simp [mulL]
  | xp, _ :: c1 :: cs, x0 :: x1 :: xs, u, xl, h, hc, hx => by
    rw [List.getLast?_cons_cons] at hc hx
    rw [mulL_cons, List.getLast?_cons_of_ne_nil (List.ne_nil_of_length_pos (by simp))]
    exact mulL_getLast? x0 (by simpa using h) hc hx

theorem targetFun_getLast? (xp : Option ℝ) {c : List (ℝ × ℝ × ℝ)} {x b : List ℝ} {u xl : ℝ}
    (h1 : c.length = x.length) (h2 : c.length = b.length) (hc : c.getLast? = some (0, 1, u)) (hx : x.getLast? = some xl)
    (hb : b.getLast? = some 0) : (targetFun xp c x b).getLast? = some xl := by
  rw [targetFun_eq, getLast?_zipWith _ (by simp [← h1, ← h2]) (mulL_getLast? _ h1 hc hx) hb, sub_zero]

theorem newtonRows_getLast? {c : List (ℝ × ℝ × ℝ)} {jd f : List ℝ} {u fl : ℝ}
    (h1 : c.length = jd.length) (h2 : c.length = f.length) (hc : c.getLast? = some (0, 1, u)) (hj : jd.getLast? = some 0)
    (hf : f.getLast? = some fl) : (newtonRows c jd f).getLast? = some ⟨0, 1, u, fl⟩ := by
  have hs : (shiftL c jd).getLast? = some (0, 1 - 0, u) := getLast?_zipWith _ h1 hc hj
  rw [newtonRows_eq, withRhs_getLast? (by simp [← h1, ← h2]) hs hf, sub_zero]

end Radial
