import Mathlib.Order.MinMax

/-! Left folds by `min` / `max`. The model writes its minima and maxima (`Res.minL`, `Res.maxL`, `Adv.minA`, the band of
`Xs.drSampDefault`, `Xs.ebMax`) as `xs.foldl step x` with `step m y = if y < m then y else m` or the like; `hf` says that the step is
`min`. Over ℝ that is `Num.min'_real`, `Num.max'_real`, given as they stand: `f` is then `Num.min'`, which unfolds to the model's step.

With `f = min` the fold is core's `(x :: xs).min?` (`List.min?_cons'`, by definition), whose value is characterised by
`List.min?_eq_some_iff`. -/

variable {α : Type} [LinearOrder α] {f : α → α → α}

theorem foldl_min_mem (hf : ∀ m y, f m y = min m y) (x : α) (xs : List α) : xs.foldl f x ∈ x :: xs := by
  obtain rfl : f = min := funext₂ hf
  exact (List.min?_eq_some_iff.1 List.min?_cons').1

theorem foldl_min_le (hf : ∀ m y, f m y = min m y) (x : α) (xs : List α) : ∀ a ∈ x :: xs, xs.foldl f x ≤ a := by
  obtain rfl : f = min := funext₂ hf
  exact (List.min?_eq_some_iff.1 List.min?_cons').2

theorem foldl_max_mem (hf : ∀ m y, f m y = max m y) (x : α) (xs : List α) : xs.foldl f x ∈ x :: xs := by
  obtain rfl : f = max := funext₂ hf
  exact (List.max?_eq_some_iff.1 List.max?_cons').1

theorem le_foldl_max (hf : ∀ m y, f m y = max m y) (x : α) (xs : List α) : ∀ a ∈ x :: xs, a ≤ xs.foldl f x := by
  obtain rfl : f = max := funext₂ hf
  exact (List.max?_eq_some_iff.1 List.max?_cons').2
