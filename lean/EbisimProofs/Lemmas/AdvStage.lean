import EbisimProofs.Lemmas.AdvBalance

/-! What the arrays of `Adv.stage m y` that several properties read hold at index `k`, in terms of the model data
and the other fields of the same stage. Each proof is one unfolding of `stage` against an `at'` lemma about
variables; C03 reads the stage through these only. Fields read by one theorem only (`R_cx`, `sh`,
`v_th`, `w_ax`, …, `fei`) are characterised by that theorem in C05, in the same way. -/
namespace Adv
open Num Gen
variable (m : Model ℝ) (y : Array ℝ) (k : ℕ)

theorem at'_n : at' (stage m y).n k = if k < m.nq then smooth (at' y k) else 0 := by
  show at' ((Array.ofFn (n := m.nq) fun i => at' y i.val).map smooth) k = _
  simp

theorem at'_R_ei : at' (stage m y).R_ei k = if m.opts.EI = true ∧ k < m.nq then
    at' (stage m y).xs_ei k * at' (stage m y).n k * (stage m y).je * at' (stage m y).fei k else 0 :=
  at'_gated k

theorem at'_R_rr : at' (stage m y).R_rr k = if m.opts.RR = true ∧ k < m.nq then
    at' (stage m y).xs_rr k * at' (stage m y).n k * (stage m y).je * at' (stage m y).fei k else 0 :=
  at'_gated k

theorem at'_R_dr : at' (stage m y).R_dr k = if m.opts.DR = true ∧ k < m.nq then
    at' (stage m y).xs_dr k * at' (stage m y).n k * (stage m y).je * at' (stage m y).fei k else 0 :=
  at'_gated k

theorem at'_R_ax : at' (stage m y).R_ax k = if m.opts.ESC_AX = true ∧ k ∉ m.lb ∧ k < m.nq then
    max (at' (stage m y).e_ax k * at' (stage m y).n k) 0 else 0 :=
  at'_escape k

theorem at'_R_ra : at' (stage m y).R_ra k = if m.opts.ESC_RA = true ∧ k ∉ m.lb ∧ k < m.nq then
    max (at' (stage m y).e_ra k * at' (stage m y).n k) 0 else 0 :=
  at'_escape k

/-- `r · exp(−q_k (φ − φ_min)/kT_k)` on the grid: the weight under every radial integral of state `k`.
Its unfolding is, term for term, the array in the statements of `C05.fei_formula` and
`C05.overlap_denominators_pos`. -/
noncomputable def rshape (m : Model ℝ) (S : Stage ℝ) (k : ℕ) : Array ℝ :=
  Array.ofFn (n := m.r.size) fun g =>
    at' (Array.ofFn (n := m.r.size) fun g' => Real.exp (-(at' m.q k) * (at' S.phi g'.val - minA S.phi) / at' S.kT k)) g.val
      * at' m.r g.val

theorem rshape_nonneg (S : Stage ℝ) (hr0 : ∀ i, 0 ≤ at' m.r i) (i : ℕ) : 0 ≤ at' (rshape m S k) i :=
  at'_ofFn_nonneg (fun _ => mul_nonneg (at'_ofFn_nonneg (fun _ => (Real.exp_pos _).le) _) (hr0 _)) i

/-- ionisation heating: `⅔ ∫₀^{r_e} r s (φ − φ_min) dr / ∫₀^{r_e} r s dr` (trapezoid rule up to the beam-edge node) -/
theorem at'_iheat (hk : k < m.nq) : at' (stage m y).iheat k = if m.opts.IHEAT = true then
    2 / 3 * trapzA (Array.ofFn (n := m.r.size) fun g =>
        at' (rshape m (stage m y) k) g.val * (at' (stage m y).phi g.val - minA (stage m y).phi)) m.r (m.ix + 1)
      / trapzA (rshape m (stage m y) k) m.r (m.ix + 1) else 0 := by
  refine (at'_rows (fun a b => if m.opts.IHEAT = true then lit 2 / lit 3 * a / b else lit 0) hk).trans ?_
  -- `lit 2 / lit 3` and `lit 0` become numerals; the weighted row is `rshape` by definition
  simp only [lit_real, Nat.cast_ofNat, Nat.cast_zero]
  rfl

end Adv
