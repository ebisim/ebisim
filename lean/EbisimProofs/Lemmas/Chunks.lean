import EbisimModel.Model.Chunks

/-! What `Chunks.go` produces for any list of lengths, and the sum of the lengths `Chunks.lens`. Core Lean only:
`go` also describes the row blocks of `Adv.bounds` (C18), so both the column chunks and the row blocks rest on these. -/
namespace Chunks

/-- Telescoping. `G a n` stands for a piece of length `n` taken from position `a` (`List.range' a n`, `(l.drop a).take n`, …); if such
pieces join up, the pieces over the chunks join up to the piece of length `Σ cs` from `s`. A skipped chunk (`c = 0`) is the case `G s 0 = []`. -/
theorem flatMap_go {γ : Type} (G : Nat → Nat → List γ) (h0 : ∀ a, G a 0 = [])
    (hadd : ∀ a m n, G a (m + n) = G a m ++ G (a + m) n) (s : Nat) (cs : List Nat) :
    ((go s cs).flatMap fun ab => G ab.1 (ab.2 - ab.1)) = G s cs.sum := by
  induction cs generalizing s with
  | nil => simp [go, h0]
  | cons c cs ih =>
    rw [List.sum_cons, hadd, ← ih]
    simp only [go]
    split
    · rw [List.flatMap_cons, Nat.add_sub_cancel_left]
    · rw [show c = 0 by omega, h0, List.nil_append]

theorem mem_go (s : Nat) (cs : List Nat) : ∀ ab ∈ go s cs, ∃ c ∈ cs, 0 < c ∧ ab.2 = ab.1 + c := by
  induction cs generalizing s with
  | nil => simp [go]
  | cons c cs ih =>
    have hrest : ∀ ab ∈ go (s + c) cs, ∃ c' ∈ c :: cs, 0 < c' ∧ ab.2 = ab.1 + c' := by
      intro ab h
      obtain ⟨c', hc', h'⟩ := ih _ ab h
      exact ⟨c', List.mem_cons_of_mem _ hc', h'⟩
    simp only [go]
    split
    · intro ab h
      rcases List.mem_cons.1 h with rfl | h
      · exact ⟨c, List.mem_cons_self, ‹0 < c›, rfl⟩
      · exact hrest ab h
    · exact hrest

theorem go_length_le (s : Nat) (cs : List Nat) : (go s cs).length ≤ cs.length := by
  induction cs generalizing s with
  | nil => simp [go]
  | cons c cs ih =>
    simp only [go]
    split
    · exact Nat.succ_le_succ (ih _)
    · exact Nat.le_succ_of_le (ih _)

theorem sum_lens_prefix (n t j : Nat) : ((List.range j).map (len n t)).sum = j * (n / t) + min j (n % t) := by
  induction j with
  | zero => simp
  | succ j ih =>
    rw [List.range_succ, List.map_append, List.sum_append, ih, Nat.succ_mul]
    simp only [List.map_cons, List.map_nil, List.sum_cons, List.sum_nil, len]
    -- `j * (n / t)` and `n % t` are atoms for `omega`
    split
    · omega
    · omega

theorem sum_lens (n t : Nat) (ht : 0 < t) : (lens n t).sum = n := by
  rw [lens, sum_lens_prefix, Nat.min_eq_right (Nat.le_of_lt (Nat.mod_lt n ht))]
  exact Nat.div_add_mod n t

end Chunks
