import EbisimProofs.Lemmas.MaxPrinciple

/-! What one pass `Radial.step` of the Boltzmann–Poisson iterations computes, over ℝ. Every `zipWith3` over the
species list collapses to a `map`, so the right-hand side `b(φ)` and the Jacobian diagonal `j_d(φ)` are column sums
of one row per species (`step_b`, `step_jd`), and the returned `nax`, `shape` are maps of `naxOf`, `shapeOf`; no tactic
unfolds `step` outside this file. `(step I phi).phi` and `.y` are the two components of `newton …` by definition (`step_phi`,
`step_y`); `step_newton_identity` and `C13.self_consistent_partial` hand `newton_identity` over as it is and leave that to the
elaborator. The inequalities that hold node by node are stated about real variables. -/
namespace Radial
open Num Gen

/-- `shape` of one species; the reference potential is the minimum (e-beam variant) or the on-axis value -/
noncomputable def shapeOf (I : BPIn ℝ) (phi : List ℝ) (s : Species ℝ) : List ℝ :=
  phi.map fun p => Real.exp (-s.q * (p - (match I.variant with | .ebeam => minL phi | _ => phi.headD 0)) / s.kT)

/-- `i_sr` of one species -/
noncomputable def isrOf (I : BPIn ℝ) (phi : List ℝ) (s : Species ℝ) : ℝ :=
  trapz (List.zipWith (· * ·) I.r (shapeOf I phi s)) I.r

/-- `nax` of one species -/
noncomputable def naxOf (I : BPIn ℝ) (phi : List ℝ) (s : Species ℝ) : ℝ :=
  match I.variant with
  | .onaxis => s.nl
  | .linear => s.nl / 2 / Const.PI / isrOf I phi s
  | .ebeam => s.nl / 2 / Const.PI / isrOf I phi s * (shapeOf I phi s).headD 0

/-- `_bx` (`_bx_a`) of one species, wall entry zeroed -/
noncomputable def ionRow (I : BPIn ℝ) (phi : List ℝ) (s : Species ℝ) : List ℝ :=
  zeroLast ((shapeOf I phi s).map fun v => -naxOf I phi s * s.q * v * Const.Q_E / Const.EPS_0)

/-- `np.sum(_bx, axis=0)` -/
noncomputable def ionRhs (I : BPIn ℝ) (phi : List ℝ) : List ℝ := colSum phi.length (I.sp.map (ionRow I phi))

/-- `_bx_b`, the electron term of the e-beam variant -/
noncomputable def beamRhs (I : BPIn ℝ) (phi : List ℝ) : List ℝ :=
  List.zipWith (fun c p => -c / Real.sqrt (2 * Const.Q_E * (I.e_kin + p) / Const.M_E) / Const.EPS_0) I.cden phi

/-- the summand of one species in `j_d` -/
noncomputable def ionJacRow (I : BPIn ℝ) (phi : List ℝ) (s : Species ℝ) : List ℝ :=
  match I.variant with
  | .onaxis => (ionRow I phi s).map fun v => v * s.q / s.kT
  | _ => List.zipWith (fun v c => v * s.q / s.kT * (isrOf I phi s - c) / isrOf I phi s)
      (ionRow I phi s) (cTerm I.r (shapeOf I phi s))

/-- the sum over the species in `j_d`, before the sign and the electron term -/
noncomputable def ionJac (I : BPIn ℝ) (phi : List ℝ) : List ℝ := colSum phi.length (I.sp.map (ionJacRow I phi))

/- In this and the next lemmas the `simp only` brings the species lists of `step` to `I.sp.map …` (not through `List.map_map`,
which would fuse `shape.map` into the map over `phi` and no longer match `ionRow`), and `rfl` then unfolds `ionRhs`, `ionRow`,
`shapeOf` … on the right until they meet that normal form: their bodies repeat the text of `step` piece by piece. A change to
`step`, to one of those definitions or to the `simp only` set therefore fails here, at the `rfl`, as a bare defeq error: compare the
piece that was changed with the `let` of `step` it copies. `I` is split first so that the `match` on the variant inside the folded
definitions reduces too. -/
theorem step_b (I : BPIn ℝ) (phi : List ℝ) : (step I phi).b =
    match I.variant with
    | .ebeam => List.zipWith (· + ·) (ionRhs I phi) (beamRhs I phi)
    | _ => List.zipWith (· + ·) I.b0 (ionRhs I phi) := by
  simp only [step, zipWith3_map, zipWith3_map_map, lit_real, Transc.exp_real, Transc.sqrt_real, Nat.cast_ofNat,
    Nat.cast_zero]
  obtain ⟨v, r, ldu, b0, cden, e_kin, sp⟩ := I
  cases v <;> rfl

theorem step_jd (I : BPIn ℝ) (phi : List ℝ) : (step I phi).jd =
    match I.variant with
    | .ebeam => zipWith3 (fun ji bb p => -(ji + Const.Q_E / Const.M_E * bb / (2 * Const.Q_E * (I.e_kin + p) / Const.M_E)))
        (ionJac I phi) (beamRhs I phi) phi
    | _ => (ionJac I phi).map fun v => -v := by
  simp only [step, zipWith3_map, zipWith3_map_map, zip_map_map_self, lit_real, Transc.exp_real, Transc.sqrt_real,
    Nat.cast_ofNat, Nat.cast_zero]
  obtain ⟨v, r, ldu, b0, cden, e_kin, sp⟩ := I
  cases v <;> rfl

theorem step_phi (I : BPIn ℝ) (phi : List ℝ) :
    (step I phi).phi = (newton I.ldu phi (step I phi).b (step I phi).jd).1 := rfl

theorem step_y (I : BPIn ℝ) (phi : List ℝ) :
    (step I phi).y = (newton I.ldu phi (step I phi).b (step I phi).jd).2 := rfl

theorem step_shape (I : BPIn ℝ) (phi : List ℝ) : (step I phi).shape = I.sp.map (shapeOf I phi) := by
  simp only [step, Transc.exp_real, lit_real, Nat.cast_zero]
  rfl

theorem step_nax (I : BPIn ℝ) (phi : List ℝ) : (step I phi).nax = I.sp.map (naxOf I phi) := by
  simp only [step, zipWith3_map, lit_real, Transc.exp_real, Nat.cast_ofNat, Nat.cast_zero]
  rfl

section pieces
variable (I : BPIn ℝ) (phi : List ℝ) (s : Species ℝ)

@[simp] theorem shapeOf_length : (shapeOf I phi s).length = phi.length := by simp [shapeOf]

theorem shapeOf_nonneg : ∀ v ∈ shapeOf I phi s, 0 ≤ v := by
  intro v hv
  obtain ⟨p, _, rfl⟩ := List.mem_map.mp hv
  exact (Real.exp_pos _).le

-- kept apart from `beamRhs` so that length goals never make `simp` walk into the square root
theorem beamRhs_length (hc : I.cden.length = phi.length) : (beamRhs I phi).length = phi.length := by
  simp only [beamRhs, List.length_zipWith, hc, min_self]

theorem beamRhs_getElem (i : ℕ) (h : i < (beamRhs I phi).length) : (beamRhs I phi)[i] =
    -(I.cden[i]'(List.lt_length_left_of_zipWith h)) /
      Real.sqrt (2 * Const.Q_E * (I.e_kin + phi[i]'(List.lt_length_right_of_zipWith h)) / Const.M_E) / Const.EPS_0 :=
  List.getElem_zipWith

theorem ionRow_grounded (hn : 0 < phi.length) : Grounded phi.length (ionRow I phi s) := by
  have := grounded_zeroLast ((shapeOf I phi s).map fun v => -naxOf I phi s * s.q * v * Const.Q_E / Const.EPS_0)
    (List.ne_nil_of_length_pos (by simpa using hn))
  simpa [ionRow] using this

theorem ionJacRow_grounded (hn : 0 < phi.length) (hr : I.r.length = phi.length) :
    Grounded phi.length (ionJacRow I phi s) := by
  have hB := ionRow_grounded I phi s hn
  unfold ionJacRow
  split
  · exact hB.map _ (by simp)
  · exact hB.zipWith_left hn (by rw [cTerm_length (by simp [hr]), hr]) _ (by simp)

theorem ionRhs_grounded (hn : 0 < phi.length) : Grounded phi.length (ionRhs I phi) :=
  grounded_colSum hn (List.forall_mem_map.mpr fun s _ => ionRow_grounded I phi s hn)

theorem ionJac_grounded (hn : 0 < phi.length) (hr : I.r.length = phi.length) : Grounded phi.length (ionJac I phi) :=
  grounded_colSum hn (List.forall_mem_map.mpr fun s _ => ionJacRow_grounded I phi s hn hr)

theorem beamRhs_grounded (hn : 0 < phi.length) (hc : Grounded phi.length I.cden) : Grounded phi.length (beamRhs I phi) :=
  hc.zipWith_left hn rfl _ (by simp)

theorem step_b_grounded (hn : 0 < phi.length) (hstat : I.variant ≠ .ebeam → Grounded phi.length I.b0)
    (hbeam : I.variant = .ebeam → Grounded phi.length I.cden) : Grounded phi.length (step I phi).b := by
  rw [step_b]
  split
  · next h => exact (ionRhs_grounded I phi hn).zipWith (beamRhs_grounded I phi hn (hbeam h)) _ (add_zero 0)
  · next h => exact (hstat (by simpa using h)).zipWith (ionRhs_grounded I phi hn) _ (add_zero 0)

theorem step_jd_grounded (hn : 0 < phi.length) (hr : I.r.length = phi.length)
    (hbeam : I.variant = .ebeam → Grounded phi.length I.cden) : Grounded phi.length (step I phi).jd := by
  have hJ := ionJac_grounded I phi hn hr
  rw [step_jd]
  split
  · next h =>
    obtain ⟨pl, hpl⟩ := getLast?_exists phi hn
    have hX := beamRhs_grounded I phi hn (hbeam h)
    refine ⟨by simp [zipWith3_eq_zipWith, hJ.1, hX.1], ?_⟩
    rw [getLast?_zipWith3 _ (hJ.1.trans hX.1.symm) hJ.1 hJ.2 hX.2 hpl]
    simp
  · exact hJ.map _ neg_zero

theorem step_phi_length (hn : 0 < phi.length) (hr : I.r.length = phi.length) (hl : I.ldu.length = phi.length)
    (hstat : I.variant ≠ .ebeam → Grounded phi.length I.b0) (hbeam : I.variant = .ebeam → Grounded phi.length I.cden) :
    (step I phi).phi.length = phi.length :=
  (newton_length I.ldu phi _ _ hl (hl.trans (step_b_grounded I phi hn hstat hbeam).1.symm)
    (hl.trans (step_jd_grounded I phi hn hr hbeam).1.symm)).1

theorem step_newton_identity (hg : GridMP I.r) (hldu : I.ldu = fdNonuniform I.r) (hphi : phi.length = I.r.length)
    (hb : (step I phi).b.length = phi.length) (hj : (step I phi).jd.length = phi.length)
    (hp : PivotsOk 0 (newtonRows I.ldu (step I phi).jd (targetFun none I.ldu phi (step I phi).b))) :
    (step I phi).phi.length = phi.length ∧ (step I phi).y.length = phi.length ∧
    mulL 0 (fdNonuniform I.r) (step I phi).phi =
      List.zipWith (· - ·) (step I phi).b (List.zipWith (· * ·) (step I phi).jd (step I phi).y) := by
  have hl : I.ldu.length = phi.length := by rw [hldu, fdNonuniform_length I.r hg.two_le, hphi]
  obtain ⟨hpl, hyl⟩ := newton_length I.ldu phi _ _ hl (hl.trans hb.symm) (hl.trans hj.symm)
  refine ⟨hpl, hyl, ?_⟩
  rw [← hldu]
  exact newton_identity I.ldu phi _ _ hl (hl.trans hb.symm) (hl.trans hj.symm) hp

/-- a row `_bx` as `step` builds it, for any on-axis density and profile; `C13.ion_rhs_nonpos` speaks of these -/
theorem ionTerm_row_nonpos {nx q : ℝ} {sh : List ℝ} (hnx : 0 ≤ nx) (hq : 0 ≤ q) (hsh : ∀ w ∈ sh, 0 ≤ w) :
    ∀ v ∈ zeroLast (sh.map fun w => -nx * q * w * Const.Q_E / Const.EPS_0), v ≤ 0 := by
  intro v hv
  rcases mem_zeroLast hv with rfl | hv
  · rfl
  · obtain ⟨w, hw, rfl⟩ := List.mem_map.mp hv
    have := hsh w hw
    have := Const.Q_E_pos
    have := Const.EPS_0_pos
    rw [show -nx * q * w * Const.Q_E / Const.EPS_0 = -(nx * q * w * Const.Q_E / Const.EPS_0) by ring]
    exact neg_nonpos.mpr (by positivity)

theorem naxOf_nonneg (hnl : 0 ≤ s.nl) (hi : I.variant ≠ .onaxis → 0 ≤ isrOf I phi s) : 0 ≤ naxOf I phi s := by
  have hP := Const.PI_pos
  unfold naxOf
  split
  · exact hnl
  · next h =>
    have := hi (by simp [h])
    positivity
  · next h =>
    have := hi (by simp [h])
    have : 0 ≤ (shapeOf I phi s).headD 0 := by
      cases hs : shapeOf I phi s with
      | nil => simp
      | cons a t => simpa using shapeOf_nonneg I phi s a (by simp [hs])
    positivity

theorem ionRow_nonpos (hq : 0 ≤ s.q) (hnax : 0 ≤ naxOf I phi s) : ∀ v ∈ ionRow I phi s, v ≤ 0 :=
  ionTerm_row_nonpos hnax hq (shapeOf_nonneg I phi s)

theorem ionRhs_nonpos (hq : ∀ s ∈ I.sp, 0 ≤ s.q) (hnax : ∀ s ∈ I.sp, 0 ≤ naxOf I phi s) : ∀ v ∈ ionRhs I phi, v ≤ 0 :=
  colSum_forall (· ≤ 0) le_rfl (fun _ _ => add_nonpos)
    (List.forall_mem_map.mpr fun s hs => ionRow_nonpos I phi s (hq s hs) (hnax s hs))

/-! ### species without charge carriers (`nl = 0`, as `Device.get` passes) contribute nothing -/

theorem ionRow_eq_zero (h : s.nl = 0) : ∀ v ∈ ionRow I phi s, v = 0 := by
  intro v hv
  have hnax : naxOf I phi s = 0 := by
    unfold naxOf
    split <;> simp [h]
  rcases mem_zeroLast hv with rfl | hv
  · rfl
  · obtain ⟨w, _, rfl⟩ := List.mem_map.mp hv
    simp [hnax]

theorem ionJacRow_eq_zero (h : s.nl = 0) : ∀ v ∈ ionJacRow I phi s, v = 0 := by
  intro v hv
  have h0 := ionRow_eq_zero I phi s h
  unfold ionJacRow at hv
  split at hv
  · obtain ⟨w, hw, rfl⟩ := List.mem_map.mp hv
    simp [h0 w hw]
  · obtain ⟨w, hw, c, _, rfl⟩ := mem_zipWith hv
    simp [h0 w hw]

end pieces

section ionfree
variable (I : BPIn ℝ) (phi : List ℝ) (hsp : ∀ s ∈ I.sp, s.nl = 0)
include hsp

theorem ionRhs_eq_zero : ∀ v ∈ ionRhs I phi, v = 0 :=
  colSum_forall (· = 0) rfl (by simp +contextual) (List.forall_mem_map.mpr fun s hs => ionRow_eq_zero I phi s (hsp s hs))

theorem ionJac_eq_zero : ∀ v ∈ ionJac I phi, v = 0 :=
  colSum_forall (· = 0) rfl (by simp +contextual) (List.forall_mem_map.mpr fun s hs => ionJacRow_eq_zero I phi s (hsp s hs))

theorem step_b_ionfree (hv : I.variant = .ebeam) (hn : 0 < phi.length) (hc : I.cden.length = phi.length) :
    (step I phi).b = beamRhs I phi := by
  rw [step_b, hv]
  simp only
  rw [zipWith_const_left (ionRhs_eq_zero I phi hsp) (by rw [(ionRhs_grounded I phi hn).1, beamRhs_length I phi hc])]
  simp

theorem step_jd_ionfree (hv : I.variant = .ebeam) (hn : 0 < phi.length) (hr : I.r.length = phi.length) :
    (step I phi).jd =
      List.zipWith (fun bb p => -(Const.Q_E / Const.M_E * bb / (2 * Const.Q_E * (I.e_kin + p) / Const.M_E)))
        (beamRhs I phi) phi := by
  rw [step_jd, hv]
  simp only
  rw [zipWith3_eq_zipWith, zipWith_const_left (ionJac_eq_zero I phi hsp)
    (by simp [(ionJac_grounded I phi hn hr).1]), ← List.map_uncurry_zip_eq_zipWith]
  simp [Function.uncurry_def]

end ionfree

@[simp] theorem beamDensity_length (r : List ℝ) (current r_e : ℝ) : (beamDensity r current r_e).length = r.length := by
  simp [beamDensity]

theorem beamDensity_nonpos (r : List ℝ) (current r_e : ℝ) (hI : 0 ≤ current) :
    ∀ c ∈ beamDensity r current r_e, c ≤ 0 := by
  intro c hc
  obtain ⟨x, _, rfl⟩ := List.mem_map.mp hc
  split_ifs
  · rw [powN_real]
    exact div_nonpos_of_nonpos_of_nonneg (div_nonpos_of_nonpos_of_nonneg (neg_nonpos.mpr hI) Const.PI_pos.le) (sq_nonneg _)
  · simp

/-! ### the electron term `-c/√(2 Q_E E/M_E)/ε₀` as a function of beam density `c ≤ 0` and electron energy `E` -/

theorem beamTerm_nonneg {c : ℝ} (E : ℝ) (hc : c ≤ 0) : 0 ≤ -c / Real.sqrt (2 * Const.Q_E * E / Const.M_E) / Const.EPS_0 :=
  div_nonneg (div_nonneg (neg_nonneg.mpr hc) (Real.sqrt_nonneg _)) Const.EPS_0_pos.le

/-- slower electrons, more charge -/
theorem beamTerm_anti {c E₁ E₂ : ℝ} (hc : c ≤ 0) (h1 : 0 < E₁) (h : E₁ ≤ E₂) :
    -c / Real.sqrt (2 * Const.Q_E * E₂ / Const.M_E) / Const.EPS_0 ≤
      -c / Real.sqrt (2 * Const.Q_E * E₁ / Const.M_E) / Const.EPS_0 := by
  have hQ := Const.Q_E_pos
  have hM := Const.M_E_pos
  refine div_le_div_of_nonneg_right (div_le_div_of_nonneg_left (neg_nonneg.mpr hc) (Real.sqrt_pos.mpr (by positivity)) ?_)
    Const.EPS_0_pos.le
  exact Real.sqrt_le_sqrt (by gcongr)

/-- entry of `b − j_d ⊙ y` for the electron term `β` and its Jacobian entry, which is `−β/(2E)` -/
theorem beam_newton_entry (β y : ℝ) {E : ℝ} (hE : 0 < E) :
    β - -(Const.Q_E / Const.M_E * β / (2 * Const.Q_E * E / Const.M_E)) * y = β * (1 + y / (2 * E)) := by
  have hQ := Const.Q_E_pos
  have hM := Const.M_E_pos
  field_simp
  ring

theorem one_add_div_two_mul_nonneg {y E : ℝ} (hE : 0 < E) (hy : -(2 * E) ≤ y) : 0 ≤ 1 + y / (2 * E) := by
  have : -1 ≤ y / (2 * E) := by
    rw [le_div_iff₀ (by linarith)]
    linarith
  linarith

theorem abs_div_two_mul_le {y E δ : ℝ} (hE : 0 < E) (hy : |y| ≤ 2 * δ * E) : |y / (2 * E)| ≤ δ := by
  rw [abs_div, abs_of_pos (by linarith : (0:ℝ) < 2 * E), div_le_iff₀ (by linarith)]
  linarith

theorem mul_one_add_between {β βlo βhi ε δ : ℝ} (hhi : βhi ≤ β) (hlo : β ≤ βlo) (hβ : 0 ≤ β) (hε : |ε| ≤ δ) (hδ1 : δ < 1) :
    (1 - δ) * βhi ≤ β * (1 + ε) ∧ β * (1 + ε) ≤ (1 + δ) * βlo := by
  obtain ⟨h1, h2⟩ := abs_le.mp hε
  constructor
  · calc (1 - δ) * βhi ≤ (1 - δ) * β := mul_le_mul_of_nonneg_left hhi (by linarith)
      _ = β * (1 - δ) := mul_comm _ _
      _ ≤ β * (1 + ε) := mul_le_mul_of_nonneg_left (by linarith) hβ
  · calc β * (1 + ε) ≤ β * (1 + δ) := mul_le_mul_of_nonneg_left (by linarith) hβ
      _ = (1 + δ) * β := mul_comm _ _
      _ ≤ (1 + δ) * βlo := mul_le_mul_of_nonneg_left hlo (by linarith)

/-- one node of the Newton identity of the ion-free beam -/
theorem beam_newton_entry_between {c E p pm y δ : ℝ} (hc : c ≤ 0) (hpm : pm ≤ p) (hp0 : p ≤ 0) (hpos : 0 < E + pm)
    (hδ1 : δ < 1) (hy : |y| ≤ 2 * δ * (E + p)) :
    let β := -c / Real.sqrt (2 * Const.Q_E * (E + p) / Const.M_E) / Const.EPS_0
    let bt := β - -(Const.Q_E / Const.M_E * β / (2 * Const.Q_E * (E + p) / Const.M_E)) * y
    (1 - δ) * (-c / Real.sqrt (2 * Const.Q_E * E / Const.M_E) / Const.EPS_0) ≤ bt ∧
      bt ≤ (1 + δ) * (-c / Real.sqrt (2 * Const.Q_E * (E + pm) / Const.M_E) / Const.EPS_0) := by
  have hE : 0 < E + p := by linarith
  simp only
  rw [beam_newton_entry _ _ hE]
  exact mul_one_add_between (beamTerm_anti hc hE (by linarith)) (beamTerm_anti hc hpos (by linarith))
    (beamTerm_nonneg _ hc) (abs_div_two_mul_le hE hy) hδ1

/-- what one species adds to a node of `b − j_d ⊙ y` (on-axis variant): `a (1 + (q/kT) y)` with `a ≤ 0` -/
theorem ion_entry_nonpos {a q kT y : ℝ} (ha : a ≤ 0) (hy : 0 ≤ 1 + q / kT * y) : a + a * q / kT * y ≤ 0 := by
  have := mul_nonpos_of_nonpos_of_nonneg ha hy
  linarith [show a + a * q / kT * y = a * (1 + q / kT * y) by ring]

/-- one node of the Newton identity with ions (on-axis variant), summed over the species -/
theorem ion_newton_entry_nonpos (y : ℝ) (a : Species ℝ → ℝ) : ∀ (sp : List (Species ℝ)), (∀ s ∈ sp, a s ≤ 0) →
    (∀ s ∈ sp, 0 ≤ 1 + s.q / s.kT * y) → (sp.map a).sum + (sp.map fun s => a s * s.q / s.kT).sum * y ≤ 0
  | [], _, _ => by simp
  | s :: sp, ha, hy => by
    have ih := ion_newton_entry_nonpos y a sp (fun t ht => ha t (by simp [ht])) (fun t ht => hy t (by simp [ht]))
    have := ion_entry_nonpos (ha s (by simp)) (hy s (by simp))
    simp only [List.map_cons, List.sum_cons]
    linarith

/-- what the comparison theorems of the three variants share; `b₀` is the static resp. the electron term -/
theorem raise_of_ionRhs_nonpos (I : BPIn ℝ) (phi phi0 b0 : List ℝ) (hg : GridMP I.r)
    (hphi : phi.length = I.r.length) (hphi0 : phi0.length = I.r.length) (hb0 : b0.length = I.r.length)
    (hion : ∀ v ∈ ionRhs I phi, v ≤ 0)
    (hfix : mulL 0 (fdNonuniform I.r) phi = List.zipWith (· + ·) b0 (ionRhs I phi))
    (hfree : mulL 0 (fdNonuniform I.r) phi0 = b0)
    (hw : phi.getLast? = some 0) (hw0 : phi0.getLast? = some 0) : ∀ p ∈ List.zip phi0 phi, p.1 ≤ p.2 := by
  have hn : 0 < phi.length := hg.length_pos hphi
  have hl : (ionRhs I phi).length = b0.length := by rw [(ionRhs_grounded I phi hn).1, hb0, hphi]
  refine fd_comparison_of_getElem hg hb0 (by rw [List.length_zipWith, hl, min_self, hb0]) hphi0 hphi hfree hfix
    (fun i _ _ => ?_) hw0 hw
  rw [List.getElem_zipWith]
  exact add_le_of_nonpos_right (hion _ (List.getElem_mem _))

/-! ### the iteration returns the output of a pass -/

theorem finish_phi (res : List ℝ × Option (StepOut ℝ) × ℕ) : (finish res).phi = res.1 := by
  rcases res with ⟨phi, _ | o, it⟩ <;> rfl

/-- with a pass budget ≥ 1, `loop` returns the output of `step` at some iterate `φ_prev`, left through the tolerance test or with
the budget used up; `P` is any property of the starting potential that a pass preserves (e.g. the length) -/
theorem loop_exit (I : BPIn ℝ) (tol : ℝ) (P : List ℝ → Prop) (hP : ∀ phi, P phi → P (step I phi).phi) :
    ∀ (fuel : ℕ) (phi : List ℝ) (it : ℕ) (last : Option (StepOut ℝ)), P phi →
    ∃ phiPrev, P phiPrev ∧ (loop I tol (fuel + 1) phi it last).1 = (step I phiPrev).phi ∧
      (loop I tol (fuel + 1) phi it last).2.1 = some (step I phiPrev) ∧
      (stopMeasure I.variant phiPrev (step I phiPrev).y < tol ∨ (loop I tol (fuel + 1) phi it last).2.2 = it + (fuel + 1)) := by
  intro fuel
  induction fuel with
  | zero =>
    intro phi it last h
    simp only [loop]
    split_ifs with hc
    · exact ⟨phi, h, rfl, rfl, Or.inl hc⟩
    · exact ⟨phi, h, rfl, rfl, Or.inr rfl⟩
  | succ f ih =>
    intro phi it last h
    rw [loop]
    split_ifs with hc
    · exact ⟨phi, h, rfl, rfl, Or.inl hc⟩
    · obtain ⟨pp, hpp, e1, e2, e3⟩ := ih (step I phi).phi (it + 1) (some (step I phi)) (hP phi h)
      exact ⟨pp, hpp, e1, e2, e3.imp_right fun e => by rw [e]; omega⟩

/-- the same for the over-relaxed iteration: it has either used up the budget or left on a pass that is not an extrapolation pass
(the pass counter it returns is that of this pass, and no multiple of 5) with both stopping measures below `10⁻¹⁰`. The change is
measured against `mPrev`, which is `φ_prev` itself on every pass but the first: `phi_m1 = phi` ends each pass of the code. `P` is a
property of the starting potential and `Q` one of the potential before it that passes and extrapolations maintain; `Q` then holds of
the returned potential, which after an extrapolation pass is not that of the pass. Stated about a variable `res` so that `sorLoop`
is unfolded once, in a hypothesis. -/
theorem sorLoop_exit (I : BPIn ℝ) (f0n : ℝ) (P Q : List ℝ → Prop) (hstep : ∀ phi, P phi → Q (step I phi).phi)
    (hQP : ∀ l, Q l → P l) (hext : ∀ phi m1 m2, Q phi → Q m1 → Q (sorExtrapolate phi m1 m2)) :
    ∀ (fuel k : ℕ) (phi m1 m2 : List ℝ) (last : Option (StepOut ℝ)) (res : List ℝ × Option (StepOut ℝ) × ℕ), P phi → Q m1 →
    res = sorLoop I f0n (fuel + 1) k phi m1 m2 last →
    ∃ phiPrev mPrev, Q res.1 ∧ res.2.1 = some (step I phiPrev) ∧ (mPrev = phiPrev ∨ mPrev = m1 ∧ phiPrev = phi) ∧
      (res.2.2 = k + fuel ∨
        res.2.2 % 5 ≠ 0 ∧ res.1 = (step I phiPrev).phi ∧
          normL (List.zipWith (· - ·) (step I phiPrev).phi mPrev) / normL (step I phiPrev).phi < 1e-10 ∧
          normL (targetFun none I.ldu phiPrev (step I phiPrev).b) / f0n < 1e-10) := by
  intro fuel
  induction fuel with
  | zero =>
    intro k phi m1 m2 last res hp hm hres
    simp only [sorLoop] at hres
    split_ifs at hres with h5 hc <;> subst hres
    · exact ⟨phi, m1, hext _ _ _ (hstep phi hp) hm, rfl, Or.inr ⟨rfl, rfl⟩, Or.inl (by simp)⟩
    · exact ⟨phi, m1, hstep phi hp, rfl, Or.inr ⟨rfl, rfl⟩, Or.inr ⟨h5, rfl, hc.1, hc.2⟩⟩
    · exact ⟨phi, m1, hstep phi hp, rfl, Or.inr ⟨rfl, rfl⟩, Or.inl (by simp)⟩
  | succ f ih =>
    intro k phi m1 m2 last res hp hm hres
    rw [sorLoop] at hres
    split_ifs at hres with h5 hc
    · have hq := hext _ m1 m2 (hstep phi hp) hm
      obtain ⟨pp, mp, h1, h2, hm', h3⟩ := ih (k + 1) _ _ m1 (some (step I phi)) res (hQP _ hq) hq hres
      exact ⟨pp, mp, h1, h2, Or.inl (hm'.elim id fun h => h.1.trans h.2.symm), h3.imp_left fun h => by rw [h]; omega⟩
    · subst hres
      exact ⟨phi, m1, hstep phi hp, rfl, Or.inr ⟨rfl, rfl⟩, Or.inr ⟨h5, rfl, hc.1, hc.2⟩⟩
    · have hq := hstep phi hp
      obtain ⟨pp, mp, h1, h2, hm', h3⟩ := ih (k + 1) _ _ m1 (some (step I phi)) res (hQP _ hq) hq hres
      exact ⟨pp, mp, h1, h2, Or.inl (hm'.elim id fun h => h.1.trans h.2.symm), h3.imp_left fun h => by rw [h]; omega⟩

end Radial
