import EbisimProofs.RealInst
import EbisimModel.Model.Radial

/-! The list operations of the radial model over ℝ. A last entry is always given as `l.getLast? = some a` (the proofs pass
through `l = ys ++ [a]`); where an index may run past the end (`colSum`, the right neighbour of the last row of a tridiagonal
product) entries are read with `getD · 0`. -/
namespace Radial
open Num

theorem getLast?_zipWith {β γ δ : Type} (f : β → γ → δ) {a : List β} {b : List γ} {x : β} {y : γ}
    (h : a.length = b.length) (ha : a.getLast? = some x) (hb : b.getLast? = some y) :
    (List.zipWith f a b).getLast? = some (f x y) := by
  obtain ⟨as, rfl⟩ := List.getLast?_eq_some_iff.mp ha
  obtain ⟨bs, rfl⟩ := List.getLast?_eq_some_iff.mp hb
  rw [List.zipWith_append (by simpa using h)]
  simp

theorem getLast?_exists {β : Type} (l : List β) (h : 0 < l.length) : ∃ v, l.getLast? = some v :=
  ⟨l.getLast (List.ne_nil_of_length_pos h), List.getLast?_eq_some_getLast _⟩

theorem zip_iff_getElem {β γ : Type} {a : List β} {b : List γ} (R : β → γ → Prop) (hl : a.length = b.length) :
    (∀ p ∈ List.zip a b, R p.1 p.2) ↔ ∀ i (h1 : i < a.length) (h2 : i < b.length), R a[i] b[i] := by
  constructor
  · intro h i h1 h2
    exact h (a[i], b[i]) (List.mem_iff_getElem.mpr ⟨i, by simp [h1, h2], by simp⟩)
  · intro h p hp
    obtain ⟨i, hi, rfl⟩ := List.mem_iff_getElem.mp hp
    rw [List.length_zip, ← hl, min_self] at hi
    simp only [List.getElem_zip]
    exact h i hi (hl ▸ hi)

theorem mem_zipWith {β γ δ : Type} {f : β → γ → δ} {a : List β} {b : List γ} {e : δ} (h : e ∈ List.zipWith f a b) :
    ∃ x ∈ a, ∃ y ∈ b, e = f x y := by
  obtain ⟨i, hi, rfl⟩ := List.mem_iff_getElem.mp h
  exact ⟨_, List.getElem_mem _, _, List.getElem_mem _, List.getElem_zipWith⟩

theorem zipWith_const_left {α β γ : Type} {f : α → β → γ} {x : α} {a : List α} {b : List β} (ha : ∀ v ∈ a, v = x)
    (hl : b.length ≤ a.length) : List.zipWith f a b = b.map (f x) := by
  apply List.ext_getElem (by simpa using hl)
  intro i h1 h2
  simp [ha _ (List.getElem_mem _)]

theorem getD_zipWith (f : ℝ → ℝ → ℝ) (hf : f 0 0 = 0) {a b : List ℝ} (h : a.length = b.length) (i : ℕ) :
    (List.zipWith f a b).getD i 0 = f (a.getD i 0) (b.getD i 0) := by
  simp only [List.getD_eq_getElem?_getD, List.getElem?_zipWith]
  rcases Nat.lt_or_ge i a.length with hi | hi
  · simp [List.getElem?_eq_getElem hi, List.getElem?_eq_getElem (h ▸ hi : i < b.length)]
  · simp [List.getElem?_eq_none hi, List.getElem?_eq_none (h ▸ hi : b.length ≤ i), hf]

theorem getD_map_zero (f : ℝ → ℝ) (hf : f 0 = 0) (l : List ℝ) (i : ℕ) : (l.map f).getD i 0 = f (l.getD i 0) := by
  simp only [List.getD_eq_getElem?_getD, List.getElem?_map]
  cases l[i]? <;> simp [hf]

theorem zipWith3_eq_zipWith {β γ δ ε : Type} (f : β → γ → δ → ε) : ∀ (a : List β) (b : List γ) (c : List δ),
    zipWith3 f a b c = List.zipWith (fun x (p : γ × δ) => f x p.1 p.2) a (b.zip c)
  | [], _, _ => by simp [zipWith3]
  | _ :: _, [], _ => by simp [zipWith3]
  | _ :: _, _ :: _, [] => by simp [zipWith3]
  | x :: a, y :: b, z :: c => by simp [zipWith3, zipWith3_eq_zipWith f a b c]

theorem getLast?_zipWith3 {β γ δ ε : Type} (f : β → γ → δ → ε) {a : List β} {b : List γ} {c : List δ} {x : β} {y : γ} {z : δ}
    (hb : a.length = b.length) (hc : a.length = c.length) (hx : a.getLast? = some x) (hy : b.getLast? = some y)
    (hz : c.getLast? = some z) : (zipWith3 f a b c).getLast? = some (f x y z) := by
  rw [zipWith3_eq_zipWith, List.zip_eq_zipWith]
  exact getLast?_zipWith _ (by simp [← hb, ← hc]) hx (getLast?_zipWith _ (hb.symm.trans hc) hy hz)

/-- three lists computed from one: the form every per-species list of `step` has -/
theorem zipWith3_map_map {β γ δ ε : Type} (f : β → γ → δ → ε) (g : β → γ) (k : β → δ) : ∀ l : List β,
    zipWith3 f l (l.map g) (l.map k) = l.map fun s => f s (g s) (k s)
  | [] => rfl
  | a :: as => by simp only [List.map_cons, zipWith3, zipWith3_map_map f g k as]

theorem zipWith3_map {β γ δ ε : Type} (f : β → γ → δ → ε) (g : β → γ) (h : γ → δ) (l : List β) :
    zipWith3 f l (l.map g) ((l.map g).map h) = l.map fun s => f s (g s) (h (g s)) := by
  rw [List.map_map, zipWith3_map_map]
  rfl

theorem zip_map_map_self {β γ δ : Type} (g : β → γ) (h : γ → δ) (l : List β) :
    (l.map g).zip ((l.map g).map h) = l.map fun s => (g s, h (g s)) := by
  rw [List.map_map, List.zip_map']
  rfl

theorem zipWith3_eq_zipWith_zipWith {β γ δ ε ζ : Type} (h : β → γ → δ → ε) (f : ζ → β → ε) (g : γ → δ → ζ)
    (hh : ∀ x y z, h x y z = f (g y z) x) : ∀ (a : List β) (b : List γ) (c : List δ),
    zipWith3 h a b c = List.zipWith f (List.zipWith g b c) a
  | [], b, c => by cases b <;> cases c <;> simp [zipWith3]
  | _ :: _, [], _ => by simp [zipWith3]
  | _ :: _, _ :: _, [] => by simp [zipWith3]
  | x :: a, y :: b, z :: c => by simp [zipWith3, hh, zipWith3_eq_zipWith_zipWith h f g hh a b c]

theorem mem_zipWith3 {β γ δ ε : Type} {f : β → γ → δ → ε} {a : List β} {b : List γ} {c : List δ} {e : ε}
    (h : e ∈ zipWith3 f a b c) : ∃ x ∈ a, ∃ y ∈ b, ∃ z ∈ c, e = f x y z := by
  rw [zipWith3_eq_zipWith] at h
  obtain ⟨x, hx, p, hp, rfl⟩ := mem_zipWith h
  exact ⟨x, hx, p.1, (List.of_mem_zip hp).1, p.2, (List.of_mem_zip hp).2, rfl⟩

@[simp] theorem zeroLast_length : ∀ l : List ℝ, (zeroLast l).length = l.length
  | [] => rfl
  | [_] => rfl
  | x :: y :: l => by simp [zeroLast, zeroLast_length (y :: l)]

theorem zeroLast_concat : ∀ (ys : List ℝ) (a : ℝ), zeroLast (ys ++ [a]) = ys ++ [0]
  | [], _ => by simp [zeroLast]
  | [_], _ => by simp [zeroLast]
  | x :: y :: ys, a => by simpa [zeroLast] using zeroLast_concat (y :: ys) a

theorem mem_zeroLast {l : List ℝ} {v : ℝ} (h : v ∈ zeroLast l) : v = 0 ∨ v ∈ l := by
  rcases List.eq_nil_or_concat l with rfl | ⟨ys, a, rfl⟩
  · simp [zeroLast] at h
  · rw [List.concat_eq_append, zeroLast_concat] at h
    simp only [List.concat_eq_append, List.mem_append, List.mem_singleton] at h ⊢
    tauto

theorem cTerm_length : ∀ {r sh : List ℝ}, r.length = sh.length → (cTerm r sh).length = r.length
  | [], [], _ => rfl
  | [_], [_], _ => rfl
  | r0 :: r1 :: rs, s0 :: s1 :: ss, h => by
    have := cTerm_length (r := r1 :: rs) (sh := s1 :: ss) (by simpa using h)
    simp [cTerm, this]

/-- what `rho_[-1] = 0` and `_bx[:, -1] = 0` establish, and every entry-wise operation of the solvers preserves -/
def Grounded (n : ℕ) (l : List ℝ) : Prop := l.length = n ∧ l.getLast? = some 0

theorem grounded_zeroLast (l : List ℝ) (h : l ≠ []) : Grounded l.length (zeroLast l) := by
  obtain ⟨ys, a, rfl⟩ := (List.eq_nil_or_concat l).resolve_left h
  rw [List.concat_eq_append, zeroLast_concat]
  exact ⟨by simp, by simp⟩

theorem Grounded.map {n : ℕ} {l : List ℝ} (h : Grounded n l) (f : ℝ → ℝ) (hf : f 0 = 0) : Grounded n (l.map f) :=
  ⟨by simp [h.1], by simp [List.getLast?_map, h.2, hf]⟩

theorem Grounded.zipWith {n : ℕ} {a b : List ℝ} (ha : Grounded n a) (hb : Grounded n b) (f : ℝ → ℝ → ℝ) (hf : f 0 0 = 0) :
    Grounded n (List.zipWith f a b) :=
  ⟨by simp [ha.1, hb.1], by rw [getLast?_zipWith f (ha.1.trans hb.1.symm) ha.2 hb.2, hf]⟩

theorem Grounded.zipWith_left {n : ℕ} (hn : 0 < n) {a : List ℝ} {β : Type} {b : List β} (ha : Grounded n a) (hb : b.length = n)
    (f : ℝ → β → ℝ) (hf : ∀ y, f 0 y = 0) : Grounded n (List.zipWith f a b) := by
  obtain ⟨y, hy⟩ := getLast?_exists b (hb ▸ hn)
  exact ⟨by simp [ha.1, hb], by rw [getLast?_zipWith f (ha.1.trans hb.symm) ha.2 hy, hf]⟩

theorem grounded_colSum {n : ℕ} (hn : 0 < n) {rows : List (List ℝ)} (h : ∀ row ∈ rows, Grounded n row) :
    Grounded n (colSum n rows) :=
  List.foldlRecOn rows _ ⟨by simp, by simp [List.getLast?_replicate, Nat.pos_iff_ne_zero.mp hn]⟩
    fun _ hacc row hrow => hacc.zipWith (h row hrow) _ (add_zero 0)

theorem foldl_add_getD (i : ℕ) : ∀ (rows : List (List ℝ)) (acc : List ℝ), (∀ r ∈ rows, r.length = acc.length) →
    (rows.foldl (fun acc row => List.zipWith (· + ·) acc row) acc).getD i 0 = acc.getD i 0 + (rows.map fun r => r.getD i 0).sum
  | [], acc, _ => by simp
  | r :: rs, acc, h => by
    have hr := h r (by simp)
    rw [List.foldl_cons, foldl_add_getD i rs _ fun r' hr' => by simp [h r' (by simp [hr']), hr],
      getD_zipWith _ (add_zero 0) hr.symm, List.map_cons, List.sum_cons, add_assoc]

-- no condition on the lengths of the rows: `C13.ion_rhs_nonpos` has none to offer
theorem colSum_forall (P : ℝ → Prop) (h0 : P 0) (hadd : ∀ a b, P a → P b → P (a + b)) {n : ℕ} {rows : List (List ℝ)}
    (h : ∀ row ∈ rows, ∀ v ∈ row, P v) : ∀ v ∈ colSum n rows, P v := by
  refine List.foldlRecOn (motive := fun l => ∀ v ∈ l, P v) rows _ (fun v hv => ?_) fun acc hacc row hrow v hv => ?_
  · rw [(List.mem_replicate.mp hv).2]
    simpa using h0
  · obtain ⟨a, ha, b, hb, rfl⟩ := mem_zipWith hv
    exact hadd a b (hacc a ha) (h row hrow b hb)

end Radial
