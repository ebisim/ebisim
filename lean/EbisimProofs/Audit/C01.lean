import EbisimProofs.Props.C01
#print axioms C01.rate_ode_solution
#print axioms C01.continuation
#print axioms C01.current_time_scaling
#print axioms C01.unit_conversion
#print axioms C01.default_start
#print axioms C01.cniM_smul
#print axioms C01.rep_xsMat
#print axioms C01.rep_rateMatrix
#print axioms C01.jacobian_is_documented
#print axioms C01.dr_iff_width
#print axioms C01.cni_row
