import EbisimProofs.Props.C16
#print axioms C16.cover_indices
#print axioms C16.go_nonempty
#print axioms C16.indices_nonempty
#print axioms C16.indices_length
#print axioms C16.indices_sizes
#print axioms C16.go_contig
#print axioms C16.indices_contiguous
#print axioms C16.threaded_eq_sequential
#print axioms C16.thread_count_irrelevant
#print axioms C16.scan_parallel_eq_sequential
