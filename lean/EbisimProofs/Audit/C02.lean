import EbisimProofs.Props.C02
#print axioms C02.process_matrix_structure
#print axioms C02.colsum_zero_iff
#print axioms C02.process_matrices_closed
#print axioms C02.toV_rrxs_nonneg
#print axioms C02.flux_nonneg
#print axioms C02.rateM_colsum
#print axioms C02.rateM_metzler
#print axioms C02.total_conserved
#print axioms C02.nonneg_preserved
#print axioms C02.cni_neutral_constant
#print axioms C02.cni_metzler
#print axioms C02.basic_model_conserves
#print axioms C02.rep_eirr
#print axioms C02.toM_xsMat_none
#print axioms C02.eiMat_colsum_exact
#print axioms C02.recMat_colsum_exact
