import EbisimProofs.Props.C04
#print axioms C04.dkT_is_documented_sum
#print axioms C04.cut_of_lt
#print axioms C04.cut_eq_zero
#print axioms C04.shiftDown_eq_cut
#print axioms C04.downMix_eq
#print axioms C04.downHeat_eq
#print axioms C04.rec_energy_block_cut
#print axioms C04.state_energy
#print axioms C04.thermal_energy_balance
#print axioms C04.escape_cools
#print axioms C04.escape_inputs_nonneg
#print axioms C04.heat_flows_hot_to_cold
#print axioms C04.spitzer_never_cools
