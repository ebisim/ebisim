import EbisimProofs.Props.C14
#print axioms C14.fd_belongs_to_grid
#print axioms C14.j_default
#print axioms C14.vra_default
#print axioms C14.fwhm_default
#print axioms C14.barrier_correction
#print axioms C14.trap_potential
#print axioms C14.overrides_verbatim
#print axioms C14.linspace_open
#print axioms C14.ten_rpow_logb
#print axioms C14.geo_zero
#print axioms C14.geo_last
#print axioms C14.geo_succ
#print axioms C14.geo_pos
#print axioms C14.geo_lt_succ
#print axioms C14.geo_succ_le
#print axioms C14.geomspace_closed
#print axioms C14.grid_closed_form
#print axioms C14.grid_eq_map
#print axioms C14.node_of_le
#print axioms C14.node_of_ge
#print axioms C14.node_zero
#print axioms C14.node_k
#print axioms C14.node_last
#print axioms C14.node_lt_succ
#print axioms C14.node_pairwise
#print axioms C14.grid_spec
#print axioms C14.argmin_go_zero
#print axioms C14.argmin_go_hit
#print axioms C14.argminSq_hit
#print axioms C14.argminSq_of_sorted
#print axioms C14.beam_edge_index
#print axioms C14.ionFree_nl
#print axioms C14.trap_potential_is_loop
#print axioms C14.trap_potential_well_partial
#print axioms C14.trap_depth_on_axis_partial
#print axioms C14.trap_potential_between_partial
#print axioms C14.node_succ_le
#print axioms C14.gridMP_grid
#print axioms C14.device_grid_admissible
#print axioms C14.trap_potential_well_device_partial
#print axioms C14.trap_potential_is_step
#print axioms C14.device_step_premises
#print axioms C14.trap_potential_returned_well
#print axioms C14.trap_potential_returned_between
