import EbisimProofs.Props.C10
#print axioms C10.ei_mat_arrangement
#print axioms C10.rec_mat_arrangement
#print axioms C10.scan_columns
#print axioms C10.eSamp_modes
#print axioms C10.logspace_length
#print axioms C10.linspace_getElem
#print axioms C10.logspace_getElem
#print axioms C10.logspace_first
#print axioms C10.logspace_last
#print axioms C10.logspace_spec
#print axioms C10.foldl_posMin_spec
#print axioms C10.eSamp_covers
#print axioms C10.cxxs_eq_spec
#print axioms C10.cx_zero_neutral
#print axioms C10.cx_strictMono_q
#print axioms C10.cx_strictAnti_ip
#print axioms C10.drSamp_covers
