import EbisimProofs.Props.C20
#print axioms C20.charPot_eq_spec
#print axioms C20.herrmann_eq_spec
#print axioms C20.herrmann_ge_brillouin
#print axioms C20.herrmann_mono
#print axioms C20.herrmann_mono_cathode
#print axioms C20.body_consistent
#print axioms C20.loop_spec
#print axioms C20.fixed_point_partial
#print axioms C20.multip_inner
#print axioms C20.multip_outer
#print axioms C20.multip_eq
#print axioms C20.profile_continuous
#print axioms C20.profile_zero_at_tube
#print axioms C20.profile_neg
#print axioms C20.profile_mono
#print axioms C20.correction_of_mem
#print axioms C20.range_error
#print axioms C20.ve_pos
#print axioms C20.cpot_pos
#print axioms C20.s1_pos
#print axioms C20.s2_nonneg
#print axioms C20.s3_nonneg
#print axioms C20.herr_ge_brillouin
#print axioms C20.consistent_pos
#print axioms C20.correction_on_axis
#print axioms C20.correction_profile
#print axioms C20.correction_self_consistent
#print axioms C20.profile_branches_meet
