import EbisimProofs.Props.C12
#print axioms C12.tdma_correct
#print axioms C12.grid_steps
#print axioms C12.fd_interior_exact
#print axioms C12.fd_uniform_eq_nonuniform
#print axioms C12.wall_zero
#print axioms C12.potential_linear
#print axioms C12.potential_solves_fd
#print axioms C12.potential_monotone
#print axioms C12.potential_mono_charge
#print axioms C12.potential_uniform_solves_fd
#print axioms C12.potential_uniform_monotone
#print axioms C12.fdUniform_getElem
#print axioms C12.flux_balance
#print axioms C12.gauss_law_uniform
#print axioms C12.gauss_flux_conserved
#print axioms C12.gauss_law_potential_uniform
#print axioms C12.abs_log_ratio_sub_le
#print axioms C12.log_ratio_flux_step
#print axioms C12.gauss_log_potential
#print axioms C12.potential_uniform_linear
#print axioms C12.potential_uniform_mono_charge
