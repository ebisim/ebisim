import EbisimProofs.Props.C06
#print axioms C06.adv_refines_basic
#print axioms C06.neutral_constant
#print axioms C06.ei_only_ion_growth
#print axioms C06.flux_agrees
