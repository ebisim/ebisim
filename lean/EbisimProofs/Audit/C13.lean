import EbisimProofs.Props.C13
#print axioms C13.self_consistent_partial
#print axioms C13.converged_exit
#print axioms C13.newton_wall_zero
#print axioms C13.line_density_linear
#print axioms C13.line_density_ebeam
#print axioms C13.step_nax
#print axioms C13.shape_bounds
#print axioms C13.step_shape
#print axioms C13.heat_capacity_ge
#print axioms C13.heat_capacity_flat
#print axioms C13.step_wall_rhs
#print axioms C13.step_wall_zero
#print axioms C13.static_rhs_premise
#print axioms C13.beam_density_premise
#print axioms C13.loop_wall_zero
#print axioms C13.ion_rhs_nonpos
#print axioms C13.ions_raise_potential_onaxis
#print axioms C13.trapz_rshape_nonneg
#print axioms C13.naxOf_nonneg_of_grid
#print axioms C13.ions_raise_potential_linear
#print axioms C13.beam_potential_monotone
#print axioms C13.beam_potential_between
#print axioms C13.sorExtrapolate_wall
#print axioms C13.sor_loop_wall_zero
#print axioms C13.sor_exit_is_step
#print axioms C13.sor_converged_exit
#print axioms C13.ionfree_newton_identity
#print axioms C13.ionfree_iterate_well
#print axioms C13.ions_raise_potential_ebeam_partial
#print axioms C13.ionfree_iterate_between
#print axioms C13.colSum_getD
#print axioms C13.ion_term_nonpos
#print axioms C13.colSum_map_getElem
#print axioms C13.onaxis_ion_entry_nonpos
#print axioms C13.ions_raise_potential_iterate_onaxis
#print axioms C13.harmonic_moment
#print axioms C13.heat_capacity_harmonic_limit
