import EbisimProofs.Props.C05
#print axioms C05.je_formula
#print axioms C05.R_ei_formula
#print axioms C05.R_rr_formula
#print axioms C05.R_dr_formula
#print axioms C05.xs_used
#print axioms C05.R_cx_formula
#print axioms C05.trap_depths
#print axioms C05.potential_used
#print axioms C05.v_th_formula
#print axioms C05.w_ax_formula
#print axioms C05.R_ax_formula
#print axioms C05.sh_formula
#print axioms C05.rhs_is_signed_sum
#print axioms C05.disabled_is_zero
#print axioms C05.disabled_is_zero'
#print axioms C05.stage_opts_congr
#print axioms C05.switch_EI_leaves_others
#print axioms C05.switch_RR_leaves_others
#print axioms C05.switch_escape_leaves_others
#print axioms C05.switch_DR_leaves_others
#print axioms C05.switch_CX_leaves_others
#print axioms C05.switch_SPITZER_leaves_others
#print axioms C05.switch_CT_leaves_others
#print axioms C05.switch_ESC_RA_leaves_others
#print axioms C05.switch_IHEAT_leaves_others
#print axioms C05.switch_EI_removes_own_term
#print axioms C05.rate_zero_of_xs_zero
#print axioms C05.kernel_boundary
#print axioms C05.kernel_block_balance
#print axioms C05.kernel_energy_balance
#print axioms C05.sumA_ofFn
#print axioms C05.trapzA_eq_sum
#print axioms C05.trapzA_term_nonneg
#print axioms C05.trapzA_mono
#print axioms C05.trapzA_nonneg
#print axioms C05.fei_formula
#print axioms C05.fei_unit_interval
#print axioms C05.minA_le
#print axioms C05.iheat_nonneg
#print axioms C05.trapzA_pos
#print axioms C05.overlap_denominators_pos
#print axioms C05.beam_energy_and_spread
#print axioms C05.spread_variance_nonneg
#print axioms C05.reaction_rates_nonneg
