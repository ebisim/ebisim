import EbisimProofs.Props.C08
#print axioms C08.rrFormula_eq_spec
#print axioms C08.kimPratt_pos
#print axioms C08.kimPratt_strictAnti
#print axioms C08.rrN0_ge
#print axioms C08.rrN0_attained
#print axioms C08.rrOcc_le_of_capOk
#print axioms C08.shell_capacity
#print axioms C08.rrRow_facts
#print axioms C08.rrShell_facts
#print axioms C08.zEff_pos
#print axioms C08.nEff_eq
#print axioms C08.rrPreGo_eq_map
#print axioms C08.rrPre_length
#print axioms C08.rr_precompute_eq_spec
#print axioms C08.rr_bare
#print axioms C08.rrxsVec_length
#print axioms C08.rrxsVec_getElem?
#print axioms C08.rr_main
#print axioms C08.rr_neutral_zero
#print axioms C08.rr_strictAnti
