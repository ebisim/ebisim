import EbisimProofs.Props.C03
#print axioms C03.dn_interior
#print axioms C03.neutrals_frozen
#print axioms C03.neighbour_transfer
#print axioms C03.dn_balance
#print axioms C03.no_cross_species
#print axioms C03.shiftUp_nonneg
#print axioms C03.shiftDown_nonneg
#print axioms C03.empty_gains
#print axioms C03.smooth_zero_of_lt
#print axioms C03.spline_nonneg
#print axioms C03.smooth_nonneg
#print axioms C03.escape_nonneg
#print axioms C03.own_rates_vanish
#print axioms C03.rhs_dn
