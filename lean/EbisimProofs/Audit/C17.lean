import EbisimProofs.Props.C17
#print axioms C17.energies_sorted_perm
#print axioms C17.results_pointwise
#print axioms C17.indexOf?_eq_go
#print axioms C17.getResult_eq
#print axioms C17.getResult_spec
#print axioms C17.abundanceAtTime_spec
#print axioms C17.abundanceOfCs_spec
#print axioms C17.csTimes_in_domain
#print axioms C17.getResult_of_mem
#print axioms C17.tables_consistent
