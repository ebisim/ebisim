import EbisimProofs.Props.C18
#print axioms C18.bounds_length
#print axioms C18.total_cons
#print axioms C18.bounds_eq_go
#print axioms C18.bounds_getElem
#print axioms C18.bounds_contiguous
#print axioms C18.bounds_first_last
#print axioms C18.rows_length
#print axioms C18.rows_getElem?
#print axioms C18.blocks_partition
#print axioms C18.assemble_spec
#print axioms C18.assemble_shape
#print axioms C18.dense_rows_agree
#print axioms C18.minL_spec
#print axioms C18.maxL_spec
#print axioms C18.domain_error
#print axioms C18.stored_time_in_domain
#print axioms C18.takeWhile_lt_between
#print axioms C18.zipWith_seg_left
#print axioms C18.zipWith_seg_right
#print axioms C18.seg_between
#print axioms C18.lerp_eq_zipWith
#print axioms C18.lerp_between
#print axioms C18.lerp_at_node
#print axioms C18.initial_spec
#print axioms C18.startKT_floor
#print axioms C18.initial_length
#print axioms C18.solver_call_spec
#print axioms C18.assembleRate_spec
#print axioms C18.gatherRates_spec
