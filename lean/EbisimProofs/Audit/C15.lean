import EbisimProofs.Props.C15
#print axioms C15.electron_velocity_eq_spec
#print axioms C15.clog_ei_eq_spec
#print axioms C15.clog_ii_eq_spec
#print axioms C15.coulomb_xs_eq_spec
#print axioms C15.ion_coll_rate_eq_spec
#print axioms C15.spitzer_heating_eq_spec
#print axioms C15.collisional_thermalisation_eq_spec
#print axioms C15.trapping_strength_axial_eq_spec
#print axioms C15.trapping_strength_radial_eq_spec
#print axioms C15.collisional_escape_rate_eq_spec
#print axioms C15.clogIi_symm
#print axioms C15.clog_ii_symm
#print axioms C15.clog_ei_nonneg
#print axioms C15.coulomb_xs_zero_of_neutral
#print axioms C15.coulomb_xs_nonneg
#print axioms C15.coll_rate_nonneg
#print axioms C15.coll_rate_zero_of_neutral
#print axioms C15.coll_rate_zero_of_low_density
#print axioms C15.spitzer_nonneg
#print axioms C15.spitzer_zero_of_low_density
#print axioms C15.spitzer_zero_of_neutral
#print axioms C15.heat_hot_to_cold
#print axioms C15.thermalisation_zero_rate
#print axioms C15.clamp_symm
#print axioms C15.collRate_of_pos
#print axioms C15.exchange_symm_form
#print axioms C15.heat_exchange_conserves
#print axioms C15.ve_pos
#print axioms C15.ve_lt_c
#print axioms C15.ve_strictMono
#print axioms C15.escape_nonneg
#print axioms C15.escape_const_below_clamp
#print axioms C15.escape_antitone
