import EbisimProofs.Props.C11
#print axioms C11.idxOfK_eq
#print axioms C11.idxOfK_none
#print axioms C11.idxOfK_some_mem
#print axioms C11.lookup_tables_ok
#print axioms C11.table_lengths
#print axioms C11.lookup_roundtrip
#print axioms C11.element_head_default
#print axioms C11.lookup_unknown_str
#print axioms C11.lookup_unknown_num
#print axioms C11.elemZ_eq
#print axioms C11.mass_number_guard
#print axioms C11.capOk_iff
#print axioms C11.occBoundB_iff
#print axioms C11.RowOk.capOk
#print axioms C11.RowOk.occBound
#print axioms C11.rowOkB_sound
#print axioms C11.rowsOkB_sound
#print axioms C11.monoB_cons
#print axioms C11.monoB_sound
#print axioms C11.allOkB_sound
#print axioms C11.tables_checked
#print axioms C11.tables_sound
#print axioms C11.shell_rows
#print axioms C11.minBindN_isSome
#print axioms C11.threshold_strictMono
#print axioms C11.clampVec_eq_some
#print axioms C11.clampPair_eq_some
#print axioms C11.clampPair_floor
#print axioms C11.getGas_formula
#print axioms C11.getIons_formula
#print axioms C11.targets_floor
