import EbisimProofs.Props.C07
#print axioms C07.lotz_rule_heavy_ion
#print axioms C07.lotz_rule_light
#print axioms C07.lotz_rule_light_outside
#print axioms C07.lotz_rule_heavy_neutral
#print axioms C07.default_coefficients
#print axioms C07.coefOkB_sound
#print axioms C07.entryOkB_iff
#print axioms C07.entryOkB_anti
#print axioms C07.neutral_dict_ok
#print axioms C07.neutralOf_ok
#print axioms C07.tables_ok
#print axioms C07.entryOk
#print axioms C07.lotzEntry_ne_keyError
#print axioms C07.lotz_table_facts
#print axioms C07.eixsRows_eq_map
#print axioms C07.eixsVec_length
#print axioms C07.eixsVec_getElem
#print axioms C07.eixs_bare_zero
#print axioms C07.minBind_eq
#print axioms C07.eixs_threshold
#print axioms C07.minBind_exists
#print axioms C07.eixs_nonneg
#print axioms C07.lotzTerm_eq_spec
#print axioms C07.shellSum_eq_sum
#print axioms C07.eixs_eq_lotz_sum
