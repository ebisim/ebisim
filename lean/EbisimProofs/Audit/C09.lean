import EbisimProofs.Props.C09
#print axioms C09.normpdf_eq_spec
#print axioms C09.abs_sqrt_sub_lt
#print axioms C09.kappa_near_one
#print axioms C09.normpdf_integrable
#print axioms C09.normpdf_integral
#print axioms C09.normpdf_peak_pos
#print axioms C09.normpdf_nonneg
#print axioms C09.normpdf_eq_mul_peak
#print axioms C09.normpdf_max
#print axioms C09.normpdf_half_width
#print axioms C09.fwhm_constant
#print axioms C09.fwhm_of_width
#print axioms C09.drSlot_eq_sum
#print axioms C09.drTerm_eq
#print axioms C09.drTerm_nonneg
#print axioms C09.drSum_nonneg
#print axioms C09.drSum_zero_of_no_row
#print axioms C09.drRow_integrable
#print axioms C09.drSum_integrable
#print axioms C09.dr_strength_preserved
#print axioms C09.tables_ok
#print axioms C09.dr_table_facts
#print axioms C09.dr_main
#print axioms C09.dr_no_data_zero
#print axioms C09.no_data_count
